/-
  CirkitModel.Proofs.EvalV — the vectorised evaluator the driver runs (`Node.evalV`) agrees with
  the unit-wise denotation (`Node.eval`) on well-formed trees, over any operation record.
-/
import CirkitModel.Model.Node
import CirkitModel.Proofs.Basics

namespace Cirkit

namespace Node
variable {R V : Type}

theorem evalV_size (o : Ops R) (x : Nat → V) (n : Node R V) : (n.evalV o x).size = n.units := by
  cases n <;> simp only [evalV, units, Array.size_ofFn]

/-- reading unit `idx h` of every input vector of a product layer -/
private theorem prodN_ofFn (o : Ops R) {ar : Nat} (cs : Fin ar → Array R) (e : Fin ar → R)
    (idx : Nat → Nat) (h : ∀ h : Fin ar, (cs h).getD (idx h) o.one = e h) :
    (o.prodN ar fun h => ((Array.ofFn cs).getD h #[]).getD (idx h) o.one) = o.prodFin ar e :=
  o.prodN_congr fun g hg => by rw [getD_arrayOfFn _ _ hg, dif_pos hg, h]

theorem evalV_getD {o : Ops R} {x : Nat → V} {n : Node R V} (hwf : n.WF) {i : Nat}
    (hi : i < n.units) (d : R) : (n.evalV o x).getD i d = n.eval o x i := by
  induction n generalizing i d with
  | leaf v k f => exact getD_arrayOfFn _ _ hi _
  | const k c => exact getD_arrayOfFn _ _ hi _
  | sum ar kin kout W ch ih =>
    simp only [units] at hi
    simp only [evalV, eval, getD_arrayOfFn _ _ hi, Ops.sumFin]
    refine o.sumN_congr fun h hh => ?_
    rw [dif_pos hh, getD_arrayOfFn _ _ hh]
    exact o.sumN_congr fun j hj => by
      rw [ih ⟨h, hh⟩ (hwf _).1 (Nat.lt_of_lt_of_eq hj (hwf _).2.symm)]
  | had ar k ch ih =>
    simp only [units] at hi
    simp only [evalV, eval, getD_arrayOfFn _ _ hi]
    exact prodN_ofFn o _ _ _ fun h => ih h (hwf h).1 (Nat.lt_of_lt_of_eq hi (hwf h).2.symm) _
  | kron ar k ch ih =>
    simp only [units] at hi
    simp only [evalV, eval, getD_arrayOfFn _ _ hi]
    exact prodN_ofFn o _ _ (digit k ar · i) fun h =>
      ih h (hwf h).1 (Nat.lt_of_lt_of_eq (digit_lt_of_lt_pow h hi) (hwf h).2.symm) _

end Node
end Cirkit
