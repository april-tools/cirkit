/-
  CirkitModel.Proofs.Transport — evaluation commutes with homomorphisms of operation records:
  mapping every input value and weight of a circuit through `φ` and evaluating over `o'` is `φ` of
  evaluating over `o`, whenever `φ` carries the operations of `o` to those of `o'`
  (`Node.eval_mapVals`).  Instances: operations transported along a bijection (`LSESumSemiring`:
  `φ = log`, `ψ = exp`), ring homomorphisms, and `conjugate` (which is `mapVals` of the
  conjugation).  Also what `mapVals` keeps of the structure.
-/
import CirkitModel.Proofs.Bridge
import CirkitModel.Model.Torch
import Mathlib.Logic.Equiv.Defs

namespace Cirkit

structure Ops.Hom {R L : Type} (o : Ops R) (o' : Ops L) (φ : R → L) : Prop where
  zero : φ o.zero = o'.zero
  one : φ o.one = o'.one
  add : ∀ a b, φ (o.add a b) = o'.add (φ a) (φ b)
  mul : ∀ a b, φ (o.mul a b) = o'.mul (φ a) (φ b)

namespace Ops.Hom
variable {R L : Type} {o : Ops R} {o' : Ops L} {φ : R → L} (hφ : Ops.Hom o o' φ)
include hφ

theorem sumN (n : ℕ) (f : ℕ → R) : φ (o.sumN n f) = o'.sumN n fun i => φ (f i) := by
  induction n with
  | zero => exact hφ.zero
  | succ n ih => rw [Ops.sumN, hφ.add, ih]; rfl

theorem prodN (n : ℕ) (f : ℕ → R) : φ (o.prodN n f) = o'.prodN n fun i => φ (f i) := by
  induction n with
  | zero => exact hφ.one
  | succ n ih => rw [Ops.prodN, hφ.mul, ih]; rfl

theorem sumFin (n : ℕ) (f : Fin n → R) : φ (o.sumFin n f) = o'.sumFin n fun h => φ (f h) := by
  rw [Ops.sumFin, hφ.sumN]
  simp only [apply_dite φ, hφ.zero]
  rfl

theorem prodFin (n : ℕ) (f : Fin n → R) : φ (o.prodFin n f) = o'.prodFin n fun h => φ (f h) := by
  rw [Ops.prodFin, hφ.prodN]
  simp only [apply_dite φ, hφ.one]
  rfl

end Ops.Hom

theorem Ops.Hom.transport {R L : Type} (o : Ops R) {φ : R → L} {ψ : L → R}
    (hψ : ∀ a, ψ (φ a) = a) : Ops.Hom o (o.transport φ ψ) φ :=
  ⟨rfl, rfl,
    fun a b => by simp only [Ops.transport, hψ],  -- `φ (ψ (φ a) + ψ (φ b)) = φ (a + b)`
    fun a b => by simp only [Ops.transport, hψ]⟩

theorem Ops.Hom.ofRingHom {R R' : Type} [CommSemiring R] [CommSemiring R'] (φ : R →+* R') :
    Ops.Hom (Ops.ofCommSemiring R) (Ops.ofCommSemiring R') φ :=
  ⟨φ.map_zero, φ.map_one, φ.map_add, φ.map_mul⟩

theorem Node.eval_mapVals {R L V : Type} {o : Ops R} {o' : Ops L} {φ : R → L}
    (hφ : Ops.Hom o o' φ) (x : ℕ → V) (n : Node R V) (i : ℕ) :
    (n.mapVals φ).eval o' x i = φ (n.eval o x i) := by
  induction n generalizing i with
  | leaf v k f => rfl
  | const k c => rfl
  | sum ar kin kout W ch ih => simp only [mapVals, eval, ih, hφ.sumFin, hφ.sumN, hφ.mul]
  | had ar k ch ih | kron ar k ch ih => simp only [mapVals, eval, ih, hφ.prodFin]

theorem Node.eval_transport {R L V : Type} [CommSemiring R] (φ : R ≃ L) (x : ℕ → V)
    (n : Node R V) (i : ℕ) :
    (n.mapVals φ).eval (Ops.transport (Ops.ofCommSemiring R) φ φ.symm) x i
      = φ (n.eval (Ops.ofCommSemiring R) x i) :=
  eval_mapVals (.transport _ φ.symm_apply_apply) x n i

section RingHom
variable {R R' V : Type} [CommSemiring R] [CommSemiring R']

theorem Node.eval_ringHom (φ : R →+* R') (n : Node R V) (x : ℕ → V) (i : ℕ) :
    φ (n.eval (Ops.ofCommSemiring R) x i)
      = (n.mapVals φ).eval (Ops.ofCommSemiring R') x i :=
  (eval_mapVals (.ofRingHom φ) x n i).symm

end RingHom

namespace Node
variable {R V : Type}

/-! What `mapVals` keeps of the structure, for any map of the values into any type; `conjugate` is
an instance (`conj_eq_mapVals`). -/

section mapVals
variable {L : Type} (φ : R → L)

theorem mem_mapVals (n : Node R V) (z : ℕ) : Node.Mem z (n.mapVals φ) ↔ Node.Mem z n := by
  induction n with
  | leaf v k f => rfl
  | const k c => rfl
  | sum ar kin kout W ch ih | had ar k ch ih | kron ar k ch ih => simp only [mapVals, Mem, ih]

theorem mapVals_units (n : Node R V) : (n.mapVals φ).units = n.units := by
  cases n <;> rfl

theorem mapVals_wf (n : Node R V) : (n.mapVals φ).WF ↔ n.WF := by
  induction n with
  | leaf v k f => rfl
  | const k c => rfl
  | sum ar kin kout W ch ih | had ar k ch ih | kron ar k ch ih =>
    simp only [mapVals, WF, ih, mapVals_units]

theorem mapVals_smooth (n : Node R V) : (n.mapVals φ).Smooth ↔ n.Smooth := by
  induction n with
  | leaf v k f => rfl
  | const k c => rfl
  | sum ar kin kout W ch ih | had ar k ch ih | kron ar k ch ih =>
    simp only [mapVals, Smooth, ih, mem_mapVals]

theorem mapVals_decomp (n : Node R V) : (n.mapVals φ).Decomp ↔ n.Decomp := by
  induction n with
  | leaf v k f => rfl
  | const k c => rfl
  | sum ar kin kout W ch ih | had ar k ch ih | kron ar k ch ih =>
    simp only [mapVals, Decomp, ih, mem_mapVals]

end mapVals

theorem conj_eq_mapVals (σ : R → R) (n : Node R V) : n.conj σ = n.mapVals σ := by
  induction n with
  | leaf v k f => rfl
  | const k c => rfl
  | sum ar kin kout W ch ih | had ar k ch ih | kron ar k ch ih => simp only [conj, mapVals, ih]

theorem conj_integ1 (n : Node R V) (σ : R → R) (S : (V → R) → R)
    (hS : ∀ g : V → R, S (fun a => σ (g a)) = σ (S g)) (v : ℕ) :
    (n.conj σ).integ1 v S = (n.integ1 v S).conj σ := by
  induction n with
  | leaf v' k f =>
    by_cases hvv : v' = v
    · simp only [conj, integ1, if_pos hvv, hS]
    · simp only [conj, integ1, if_neg hvv]
  | const k c => rfl
  | sum ar kin kout W ch ih | had ar k ch ih | kron ar k ch ih => simp only [conj, integ1, ih]

theorem conj_correct [CommSemiring R] (n : Node R V) (σ : R →+* R) (x : ℕ → V) (i : ℕ) :
    (n.conj σ).eval (Ops.ofCommSemiring R) x i = σ (n.eval (Ops.ofCommSemiring R) x i) := by
  rw [conj_eq_mapVals, eval_mapVals (.ofRingHom σ)]

end Node
end Cirkit
