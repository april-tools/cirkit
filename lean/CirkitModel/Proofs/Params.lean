/-
  CirkitModel.Proofs.Params — the general facts behind C10 / C17 / C19:
  the Dirichlet axis shift, an invariant of loading a state dictionary, congruence of
  parameter-graph evaluation / circuit denotation in the valuation, and `PExpr.onlyRefs` (graphs
  built from references and constants) in terms of the leaves.
-/
import Mathlib.Data.Nat.Notation
import Mathlib.Data.Int.Notation
import CirkitModel.Model.Params
import CirkitModel.Model.PExpr
import CirkitModel.Model.Sym
import CirkitModel.Spec.Sym

namespace Cirkit

/-- no range hypothesis on `axis` is needed -/
theorem compiledDirichletDim_eq (axis : ℤ) (r : ℕ) :
    compiledDirichletDim axis r = declaredAxis axis r + 1 := by
  unfold compiledDirichletDim declaredAxis
  rcases Int.lt_or_le axis 0 with h | h
  · rw [if_pos h, if_neg (Int.not_le.2 h), if_neg (Int.not_le.2 h), Int.add_assoc]
  · rw [if_neg (Int.not_lt.2 h), if_pos h, if_pos (Int.le_add_one h)]

section State
variable {α : Type}

theorem StateLayout.load_cons (e : String × ℕ) (es : List (String × ℕ)) (sd : List (String × α))
    (v : ℕ → α) :
    (StateLayout.mk (e :: es)).load sd v = (StateLayout.mk es).load sd fun s =>
      if s = e.2 then (sd.find? (·.1 == e.1)).elim (v s) (·.2) else v s := by
  unfold StateLayout.load
  rw [List.foldl_cons]
  cases sd.find? (·.1 == e.1) with
  | none => exact congrArg (List.foldl _ · es) (funext fun s => (ite_self _).symm)
  | some kv => rfl

/-- Stated for an arbitrary `Q` so that `C19.load_save` (`Q = (· = vals sid)`) and
    `C19.load_untouched` (`Q = (· = vals' sid)`) are both instances; the disjunction is what the
    induction over the entries carries. -/
theorem StateLayout.load_inv (Q : α → Prop) (sd : List (String × α)) (sid : ℕ) (l : StateLayout)
    (hw : ∀ e ∈ l.entries, e.2 = sid → ∃ kv, sd.find? (·.1 == e.1) = some kv ∧ Q kv.2)
    (v : ℕ → α) (h : Q (v sid) ∨ sid ∈ l.entries.map (·.2)) : Q (l.load sd v sid) := by
  obtain ⟨es⟩ := l
  induction es generalizing v with
  | nil => exact h.resolve_right List.not_mem_nil
  | cons e es ih =>
    rw [load_cons]
    refine ih _ (fun e' he' => hw e' (List.mem_cons_of_mem _ he')) ?_
    by_cases hs : sid = e.2
    · obtain ⟨kv, hf, hq⟩ := hw e List.mem_cons_self hs.symm
      exact Or.inl (by rwa [if_pos hs, hf])
    · rw [if_neg hs]
      exact h.imp_right fun hm => (List.mem_cons.1 hm).resolve_left hs

theorem save_keys (l : StateLayout) (v : ℕ → α) : (l.save v).map (·.1) = l.entries.map (·.1) := by
  unfold StateLayout.save
  rw [List.map_map]
  rfl

end State

/-! The valuation enters a layer only through `PExpr.eval` of its `params`: the congruences below
    are stated in terms of those evaluations, not of leaves. -/

section Congr
variable {R : Type}

namespace PExpr
mutual
theorem eval_congr_aux (A : AOps R) (θ θ' : ℕ → Option (Array R)) (pre : R → R) :
    ∀ (e : PExpr R), (∀ p ∈ e.leaves, θ p.1 = θ' p.1) → eval A θ pre e = eval A θ' pre e
  | .tensor _ _, h | .ref _ _, h => by
    unfold eval
    rw [h _ (List.mem_singleton_self _)]
  | .const _ _, _ => rfl
  | .app _ args, h => by
    unfold eval
    rw [evalList_congr_aux A θ θ' pre args h]
theorem evalList_congr_aux (A : AOps R) (θ θ' : ℕ → Option (Array R)) (pre : R → R) :
    ∀ (es : List (PExpr R)), (∀ p ∈ leaves.leavesList es, θ p.1 = θ' p.1) →
      eval.evalList A θ pre es = eval.evalList A θ' pre es
  | [], _ => rfl
  | e :: es, h => by
    unfold eval.evalList
    rw [eval_congr_aux A θ θ' pre e fun p hp => h p (List.mem_append_left _ hp),
      evalList_congr_aux A θ θ' pre es fun p hp => h p (List.mem_append_right _ hp)]
end
end PExpr

theorem leafFun_congr_eval (A : AOps R) (θ θ' : ℕ → Option (Array R)) (pre : R → R) (K : LKind R)
    (h : ∀ e ∈ K.params, PExpr.eval A θ pre e = PExpr.eval A θ' pre e) :
    leafFun A θ pre K = leafFun A θ' pre K := by
  induction K with
  | embedding _ _ _ w | polynomial _ _ _ w | constantValue _ _ w =>
    unfold leafFun
    rw [h w (List.mem_singleton_self w)]
  | categorical _ _ _ p l | binomial _ _ _ p l =>
    unfold leafFun
    -- the `match probs, logits`; arms: probs only / logits only / error, which does not read θ
    split
    · rw [h _ (List.mem_singleton_self _)]
    · rw [h _ (List.mem_singleton_self _)]
    · rfl
  | gaussian _ _ m s lp =>
    unfold leafFun
    rw [h m List.mem_cons_self, h s (List.mem_cons_of_mem _ List.mem_cons_self)]
    -- under the binders of `M` and `S`, what is left is a `match` on `lp` that reduces by itself
    refine bind_congr fun M => bind_congr fun S => ?_
    cases lp with
    | none => rfl
    | some e =>
      exact congrArg (· >>= _)
        (h e (List.mem_cons_of_mem _ (List.mem_cons_of_mem _ List.mem_cons_self)))
  | evidence inner obs ih =>
    unfold leafFun
    rw [ih fun e he => h e (List.mem_append_left _ he),
      h obs (List.mem_append_right _ (List.mem_singleton_self obs))]
  | sum | hadamard | kronecker => rfl

theorem _root_.Array.foldlM_congr_mem {m : Type → Type} [Monad m] {β γ : Type} {f g : β → γ → m β}
    {xs : Array γ} (h : ∀ x ∈ xs, ∀ b, f b x = g b x) (init : β) :
    xs.foldlM f init = xs.foldlM g init := by
  rw [← Array.foldlM_toList, ← Array.foldlM_toList]
  simp only [← Array.mem_toList_iff] at h
  generalize xs.toList = l at h
  induction l generalizing init with
  | nil => rfl
  | cons a l ih =>
    simp only [List.foldlM_cons, h a List.mem_cons_self,
      fun b => ih b fun x hx => h x (List.mem_cons_of_mem _ hx)]

theorem SCirc.denoteLayers_congr_eval (A : AOps R) (θ θ' : ℕ → Option (Array R)) (pre : R → R)
    (c : SCirc R)
    (h : ∀ l ∈ c.layers, ∀ e ∈ l.kind.params, PExpr.eval A θ pre e = PExpr.eval A θ' pre e) :
    c.denoteLayers A θ pre = c.denoteLayers A θ' pre := by
  refine Array.foldlM_congr_mem (fun l hl acc => ?_) _
  -- the `match l.kind` of the step; arms: sum (weight `w`) / hadamard / kronecker / input layer
  split
  next w hk => rw [h l hl w (hk ▸ List.mem_singleton_self w)]
  · rfl
  · rfl
  · rw [leafFun_congr_eval A θ θ' pre l.kind (h l hl)]

namespace PExpr

theorem onlyRefs_eq_all (e : PExpr R) : e.onlyRefs = e.leaves.all (·.2) := by
  induction e using PExpr.rec
    (motive_2 := fun es => onlyRefs.onlyRefsList es = (leaves.leavesList es).all (·.2)) with
  | tensor | const | ref | nil => rfl
  | app _ _ ih => exact ih
  | cons e es ihe ihes =>
    rw [onlyRefs.onlyRefsList, leaves.leavesList, List.all_append, ihe, ihes]

-- a list of graphs is the argument list of an application
theorem onlyRefsList_leaves : ∀ (es : List (PExpr R)), onlyRefs.onlyRefsList es = true →
    ∀ p ∈ leaves.leavesList es, p.2 = true := fun es h =>
  List.all_eq_true.1 ((onlyRefs_eq_all (.app .sum es)).symm.trans h)
end PExpr

end Congr

end Cirkit
