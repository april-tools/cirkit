/-
  CirkitModel.Proofs.FoldBuild — the model of `build_folded_graph` emits a valid certificate:
  `buildFolded` is the `loc`-table certificate (`certOf`) of the groups of its frontiers, and such
  a certificate is valid whenever the groups are a layer-wise ordering (`Layered`) with
  homogeneous members.  Grouping each frontier keeps the ordering layer-wise and makes it
  homogeneous (`GFInv`).
-/
import Mathlib.Data.List.Basic
import Mathlib.Data.List.GetD
import CirkitModel.Proofs.Fold

namespace Cirkit

def gkey (key : ℕ → ℕ) (grp : List ℕ) : ℕ := key (grp.headD 0)

theorem gkey_append {key : ℕ → ℕ} {grp : List ℕ} (h : grp ≠ []) (l : List ℕ) :
    gkey key (grp ++ l) = gkey key grp := by
  cases grp with
  | nil => exact absurd rfl h
  | cons a as => rfl

/-- one step of `groupFrontier` -/
def gfStep (key : ℕ → ℕ) (groups : List (List ℕ)) (m : ℕ) : List (List ℕ) :=
  if groups.any (fun grp => gkey key grp == key m) then
    groups.map (fun grp => if gkey key grp == key m then grp ++ [m] else grp)
  else groups ++ [[m]]

theorem groupFrontier_concat (key : ℕ → ℕ) (fr : List ℕ) (m : ℕ) :
    groupFrontier key (fr ++ [m]) = gfStep key (groupFrontier key fr) m :=
  List.foldl_concat ..

/-- invariant of the grouping loop `groupFrontier` -/
structure GFInv (key : ℕ → ℕ) (groups : List (List ℕ)) : Prop where
  hom : ∀ grp ∈ groups, grp ≠ [] ∧ ∀ m ∈ grp, key m = gkey key grp
  nodup : (groups.map (gkey key)).Nodup

theorem gfStep_inv {key : ℕ → ℕ} {groups : List (List ℕ)} (m : ℕ) (h : GFInv key groups) :
    GFInv key (gfStep key groups m) := by
  unfold gfStep
  split
  · -- `m` joins the groups with its key; their first members stay
    have hk : ∀ grp ∈ groups,
        gkey key (if gkey key grp == key m then grp ++ [m] else grp) = gkey key grp :=
      fun grp hg => by split; exacts [gkey_append (h.hom grp hg).1 _, rfl]
    refine ⟨fun grp' hg' => ?_, ?_⟩
    · obtain ⟨grp, hg, rfl⟩ := List.mem_map.mp hg'
      obtain ⟨hne, hhom⟩ := h.hom grp hg
      rw [hk grp hg]
      split
      · refine ⟨List.append_ne_nil_of_left_ne_nil hne _, fun x hx => ?_⟩
        rcases List.mem_append.mp hx with hx | hx
        · exact hhom x hx
        · rw [List.mem_singleton.mp hx]; exact (beq_iff_eq.mp ‹_›).symm
      · exact ⟨hne, hhom⟩
    · -- the list of group keys is unchanged
      rw [List.map_map]
      exact (List.map_congr_left hk : _ = groups.map (gkey key)) ▸ h.nodup
  · -- `m` opens a group, its key is new
    rename_i hany
    refine ⟨fun grp hg => ?_, nodup_map_snoc h.nodup fun grp hg e =>
      hany (List.any_eq_true.mpr ⟨grp, hg, beq_iff_eq.mpr e⟩)⟩
    rcases List.mem_append.mp hg with hg | hg
    · exact h.hom grp hg
    · rw [List.mem_singleton.mp hg]
      exact ⟨List.cons_ne_nil _ _, fun x hx => by rw [List.mem_singleton.mp hx]; rfl⟩

/-- if exactly one group has key `k`, appending `m` to the groups with key `k` adds `m` once -/
theorem flatten_map_append_perm (key : ℕ → ℕ) (k m : ℕ) {groups : List (List ℕ)}
    (hnd : (groups.map (gkey key)).Nodup) (hk : k ∈ groups.map (gkey key)) :
    (groups.map fun grp => if gkey key grp == k then grp ++ [m] else grp).flatten.Perm
      (groups.flatten ++ [m]) := by
  induction groups with
  | nil => cases hk
  | cons a rest ih =>
    rw [List.map_cons, List.nodup_cons] at hnd
    rw [List.map_cons, List.flatten_cons, List.flatten_cons, List.append_assoc]
    by_cases ha : gkey key a = k
    · -- keys are duplicate-free and `a` has key `k`, so no group of `rest` has key `k`
      have hrest : ∀ b ∈ rest, (if gkey key b == k then b ++ [m] else b) = b := fun b hb =>
        if_neg fun e => hnd.1 (by rw [ha, ← beq_iff_eq.mp e]; exact List.mem_map_of_mem hb)
      rw [List.map_congr_left hrest, List.map_id', if_pos (beq_iff_eq.mpr ha), List.append_assoc]
      exact List.Perm.append_left a List.perm_append_comm
    · rw [if_neg (mt beq_iff_eq.mp ha)]
      exact List.Perm.append_left a
        (ih hnd.2 ((List.mem_cons.mp hk).resolve_left (Ne.symm ha)))

theorem gfStep_perm {key : ℕ → ℕ} {groups : List (List ℕ)} (m : ℕ) (h : GFInv key groups) :
    (gfStep key groups m).flatten.Perm (groups.flatten ++ [m]) := by
  unfold gfStep
  split
  · rename_i hany
    obtain ⟨grp, hg, hk⟩ := List.any_eq_true.mp hany
    exact flatten_map_append_perm key _ m h.nodup (List.mem_map.mpr ⟨grp, hg, beq_iff_eq.mp hk⟩)
  · rw [List.flatten_append, List.flatten_singleton]

theorem groupFrontier_spec (key : ℕ → ℕ) (fr : List ℕ) :
    GFInv key (groupFrontier key fr) ∧ (groupFrontier key fr).flatten.Perm fr := by
  induction fr using List.reverseRecOn with
  | nil => exact ⟨⟨nofun, List.nodup_nil⟩, .refl _⟩
  | append_singleton fr m ih =>
    rw [groupFrontier_concat]
    exact ⟨gfStep_inv m ih.1, (gfStep_perm m ih.1).trans (ih.2.append_right [m])⟩

theorem groupFrontier_perm (key : ℕ → ℕ) (fr : List ℕ) :
    (groupFrontier key fr).flatten.Perm fr :=
  (groupFrontier_spec key fr).2

theorem flatten_flatMap_perm {α : Type} {f : List α → List (List α)}
    (hf : ∀ x, (f x).flatten.Perm x) (xs : List (List α)) :
    (xs.flatMap f).flatten.Perm xs.flatten := by
  induction xs with
  | nil => rfl
  | cons x xs ih =>
    rw [List.flatMap_cons, List.flatten_append, List.flatten_cons]
    exact (hf x).append ih

theorem loc_go_append_left {i : ℕ} {A : List (List ℕ)} (B : List (List ℕ)) (k : ℕ)
    (h : i ∈ A.flatten) : ∃ p, FoldCert.loc.go i (A ++ B) k = some p ∧ p.1 < k + A.length := by
  induction A generalizing k with
  | nil => cases h
  | cons a A ih =>
    rw [List.cons_append, FoldCert.loc.go]
    split
    · exact ⟨_, rfl, Nat.lt_add_of_pos_right (Nat.zero_lt_succ _)⟩
    · obtain ⟨p, hp, hlt⟩ := ih (k + 1) ((List.mem_append.mp h).resolve_left (indexOf?_none ‹_›))
      exact ⟨p, hp, Nat.add_right_comm k 1 A.length ▸ hlt⟩

theorem loc_append_left {i : ℕ} {A : List (List ℕ)} (B : List (List ℕ)) (h : i ∈ A.flatten) :
    ∃ p, FoldCert.loc (A ++ B) i = some p ∧ p.1 < A.length := by
  obtain ⟨p, hp, hlt⟩ := loc_go_append_left B 0 h
  exact ⟨p, hp, Nat.zero_add A.length ▸ hlt⟩

theorem flatMap_split {β γ : Type} (f : β → List γ) (xs : List β) (d : β) (d' : γ) (gi : ℕ)
    (h : gi < (xs.flatMap f).length) :
    ∃ k, k < xs.length ∧ ((xs.take k).flatMap f).length ≤ gi ∧
      (xs.flatMap f).getD gi d' ∈ f (xs.getD k d) := by
  induction xs generalizing gi with
  | nil => cases h
  | cons x xs ih =>
    rw [List.flatMap_cons, List.length_append] at h
    rw [List.flatMap_cons]
    by_cases hlt : gi < (f x).length
    · refine ⟨0, Nat.zero_lt_succ _, Nat.zero_le _, ?_⟩
      rw [List.getD_append _ _ _ _ hlt]
      exact getD_mem hlt d'
    · have hge := Nat.le_of_not_lt hlt
      obtain ⟨k, hk, hle, hmem⟩ := ih (gi - (f x).length) (Nat.sub_lt_left_of_lt_add hge h)
      refine ⟨k + 1, Nat.succ_lt_succ hk, ?_, ?_⟩
      · rw [List.take_succ_cons, List.flatMap_cons, List.length_append]
        exact Nat.add_le_of_le_sub' hge hle
      · rw [List.getD_append_right _ _ _ _ hge]
        exact hmem

/-- Splitting every frontier into groups keeps the ordering layer-wise: a group at position `gi`
    comes from some frontier `k`; the inputs of its members lie in the first `k` frontiers, whose
    groups are a prefix of the first `gi` groups (`hpre`). -/
theorem Layered.flatMap {g : UGraph} {frs : List (List ℕ)} (h : Layered g frs)
    {f : List ℕ → List (List ℕ)} (hf : ∀ x, (f x).flatten.Perm x) : Layered g (frs.flatMap f) := by
  refine ⟨(flatten_flatMap_perm hf frs).trans h.perm, fun gi hgi m hm i hi => ?_, h.arity, h.outs⟩
  obtain ⟨k, hk, hle, hmk⟩ := flatMap_split f frs [] [] gi hgi
  have hmfr : m ∈ frs.getD k [] := (hf _).mem_iff.mp (List.mem_flatten.mpr ⟨_, hmk, hm⟩)
  have hi' : i ∈ ((frs.take k).flatMap f).flatten :=
    (flatten_flatMap_perm hf _).mem_iff.mpr (h.earlier k hk m hmfr i hi)
  have hpre : (frs.take k).flatMap f <+: (frs.flatMap f).take gi :=
    List.prefix_take_iff.mpr ⟨⟨(frs.drop k).flatMap f, by
      rw [← List.flatMap_append, List.take_append_drop]⟩, hle⟩
  obtain ⟨t, ht⟩ := hpre
  rw [← ht, List.flatten_append]
  exact List.mem_append_left _ hi'

/-- The certificate determined by its groups: `inIdx` and `outIdx` are the `loc` tables. -/
def certOf (g : UGraph) (groups : List (List ℕ)) : FoldCert where
  groups := groups
  inIdx := groups.map fun members => members.map fun m =>
    (g.ins m).map fun i => (FoldCert.loc groups i).getD (0, 0)
  outIdx := g.outputs.map fun o => (FoldCert.loc groups o).getD (0, 0)

/-- the third check of `FoldCert.valid` on a group -/
def Homogeneous (g : UGraph) (grp : List ℕ) : Prop :=
  grp ≠ [] ∧ ∀ m ∈ grp, g.key m = g.key (grp.headD 0) ∧
    (g.ins m).length = (g.ins (grp.headD 0)).length

/-- A layer-wise ordering with homogeneous frontiers, taken as the groups, gives a valid
    certificate: an input of a member of group `gi` lies in `groups.take gi`, so the `loc` table
    finds it with a group index `< gi`.  (`h.arity` is not used: `hom` carries the arities.) -/
theorem certOf_valid {g : UGraph} {groups : List (List ℕ)} (h : Layered g groups)
    (hom : ∀ grp ∈ groups, Homogeneous g grp) : (certOf g groups).valid g = true := by
  simp only [FoldCert.valid, certOf, Bool.and_eq_true, beq_iff_eq, List.all_eq_true,
    List.mem_range, List.length_map, Bool.not_eq_true', List.isEmpty_eq_false_iff]
  -- the conjuncts of `valid`: partition, length of `inIdx` (trivial after `length_map`), check
  -- of group `gi`, length of `outIdx`, output `j`
  refine ⟨⟨⟨⟨partitions_iff_perm.mpr h.perm, trivial⟩, fun gi hgi => ?_⟩, trivial⟩, fun j hj => ?_⟩
  · rw [getD_map_of_lt _ hgi []]
    refine ⟨⟨⟨List.length_map _, (hom _ (getD_mem hgi [])).1⟩, (hom _ (getD_mem hgi [])).2⟩,
      fun f hf => ?_⟩
    rw [getD_map_of_lt _ hf 0]
    refine ⟨List.length_map _, fun x hx => ?_⟩
    rw [List.length_map] at hx
    rw [getD_map_of_lt _ hx 0]
    -- split `groups = take gi ++ drop gi`: the input lies in `take gi` (`h.earlier`), so `loc`
    -- finds it there, at a group index `< (take gi).length ≤ gi`
    obtain ⟨p, hp, hlt⟩ := loc_append_left (groups.drop gi)
      (h.earlier gi hgi _ (getD_mem hf 0) _ (getD_mem hx 0))
    rw [List.take_append_drop] at hp
    rw [hp]
    simp only [Option.getD_some, beq_self_eq_true, Bool.true_and, decide_eq_true_eq]
    exact Nat.lt_of_lt_of_le hlt (List.length_take_le _ _)
  · rw [getD_map_of_lt _ hj 0]
    -- an output is a module, so it is in some group and `loc` finds it
    obtain ⟨p, hp, -⟩ := loc_append_left []
      (h.perm.mem_iff.mpr (List.mem_range.mpr (h.outs _ (getD_mem hj 0))))
    rw [List.append_nil] at hp
    rw [hp]; rfl

/-- a group has one key (`GFInv`), and the key decides the arity (`h.arity`) -/
theorem Layered.homogeneous {g : UGraph} {frs : List (List ℕ)} (h : Layered g frs) :
    ∀ grp ∈ frs.flatMap (groupFrontier g.key), Homogeneous g grp := by
  intro grp hg
  have hlt : ∀ m ∈ grp, m < g.n := fun m hm => List.mem_range.mp
    ((h.flatMap (groupFrontier_perm g.key)).perm.mem_iff.mp (List.mem_flatten.mpr ⟨grp, hg, hm⟩))
  obtain ⟨fr, -, hgf⟩ := List.mem_flatMap.mp hg
  obtain ⟨hne, hkey⟩ := (groupFrontier_spec g.key fr).1.hom grp hgf
  have hhd : grp.headD 0 ∈ grp := List.headD_eq_getD ▸ getD_mem (List.length_pos_iff.mpr hne) 0
  exact ⟨hne, fun m hm => ⟨hkey m hm, h.arity m (hlt m hm) _ (hlt _ hhd) (hkey m hm)⟩⟩

/-- With homogeneous groups the short-cut of `buildFolded` for input-less groups changes nothing. -/
theorem buildFolded_eq (g : UGraph) (frs : List (List ℕ))
    (hom : ∀ grp ∈ frs.flatMap (groupFrontier g.key), Homogeneous g grp) :
    buildFolded g frs = certOf g (frs.flatMap (groupFrontier g.key)) := by
  unfold buildFolded certOf
  simp only [FoldCert.mk.injEq, true_and, and_true]
  refine List.map_congr_left fun members hm => ?_
  split
  · rename_i hemp
    refine List.map_congr_left fun m hmm => ?_
    -- `m` has the arity of the head (`Homogeneous`), which is 0 (`hemp`), so `g.ins m = []`
    have hm0 : g.ins m = [] := List.length_eq_zero_iff.mp
      (((hom members hm).2 m hmm).2.trans
        (List.length_eq_zero_iff.mpr (List.isEmpty_iff.mp hemp)))
    rw [hm0]
    rfl
  · rfl

end Cirkit
