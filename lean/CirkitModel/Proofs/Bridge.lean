/-
  CirkitModel.Proofs.Bridge — the model in Mathlib's terms.  `Ops.ofCommSemiring R` is the record
  the theorems are stated over, and the executable `Rat` instance *is* that record (`ratOps_eq`);
  over it the folds of `Ops` are `Finset` sums and products, and so are the layers of `Node.eval`
  (`eval_sum`, `eval_had`, `eval_kron`, their one- and two-input forms).
-/
import Mathlib.Algebra.BigOperators.Ring.Finset
import Mathlib.Algebra.BigOperators.Fin
import Mathlib.Algebra.Order.Field.Rat
import CirkitModel.Model.Basic
import CirkitModel.Model.Num
import CirkitModel.Spec.Node

open Finset

namespace Cirkit

/-- The record the driver executes at `Rat` is literally the record the theorems are about. -/
theorem ratOps_eq : ratOps = Ops.ofCommSemiring Rat := rfl

section
variable {R : Type} [CommSemiring R]

@[simp] theorem ofCS_zero : (Ops.ofCommSemiring R).zero = 0 := rfl
@[simp] theorem ofCS_one : (Ops.ofCommSemiring R).one = 1 := rfl
@[simp] theorem ofCS_add (a b : R) : (Ops.ofCommSemiring R).add a b = a + b := rfl
@[simp] theorem ofCS_mul (a b : R) : (Ops.ofCommSemiring R).mul a b = a * b := rfl

theorem sumN_eq (n : Nat) (f : Nat → R) :
    (Ops.ofCommSemiring R).sumN n f = ∑ i ∈ range n, f i := by
  induction n with
  | zero => simp [Ops.sumN]
  | succ n ih => simp [Ops.sumN, ih, Finset.sum_range_succ]

theorem prodN_eq (n : Nat) (f : Nat → R) :
    (Ops.ofCommSemiring R).prodN n f = ∏ i ∈ range n, f i := by
  induction n with
  | zero => simp [Ops.prodN]
  | succ n ih => simp [Ops.prodN, ih, Finset.prod_range_succ]

theorem sumFin_eq (n : Nat) (f : Fin n → R) :
    (Ops.ofCommSemiring R).sumFin n f = ∑ h : Fin n, f h := by
  unfold Ops.sumFin
  rw [sumN_eq, Finset.sum_fin_eq_sum_range]
  rfl

theorem prodFin_eq (n : Nat) (f : Fin n → R) :
    (Ops.ofCommSemiring R).prodFin n f = ∏ h : Fin n, f h := by
  unfold Ops.prodFin
  rw [prodN_eq, Finset.prod_fin_eq_prod_range]
  rfl

end
section
variable {R V : Type} [CommSemiring R]

theorem prod_eq_mul_prod_erase_of_ne {ι : Type} [Fintype ι] [DecidableEq ι] (F G : ι → R) (i0 : ι)
    (h : ∀ i, i ≠ i0 → F i = G i) : ∏ i, F i = F i0 * ∏ i ∈ univ.erase i0, G i := by
  rw [← Finset.mul_prod_erase univ F (mem_univ i0)]
  exact congrArg _ (Finset.prod_congr rfl fun i hi => h i (Finset.mem_erase.mp hi).1)

namespace Node

theorem eval_leaf {R V : Type} (o : Ops R) (x : ℕ → V) (v k : ℕ) (f : ℕ → V → R) (i : ℕ) :
    (Node.leaf v k f).eval o x i = f i (x v) := rfl

theorem eval_sum (x : ℕ → V) (ar kin kout : ℕ) (W : ℕ → ℕ → R) (ch : Fin ar → Node R V) (i : ℕ) :
    (Node.sum ar kin kout W ch).eval (Ops.ofCommSemiring R) x i
      = ∑ h : Fin ar, ∑ j ∈ range kin,
          W i (h.val * kin + j) * (ch h).eval (Ops.ofCommSemiring R) x j := by
  simp only [Node.eval, sumFin_eq, sumN_eq, ofCS_mul]

theorem eval_had (x : ℕ → V) (ar k : ℕ) (ch : Fin ar → Node R V) (i : ℕ) :
    (Node.had ar k ch).eval (Ops.ofCommSemiring R) x i
      = ∏ h : Fin ar, (ch h).eval (Ops.ofCommSemiring R) x i := by
  simp only [Node.eval, prodFin_eq]

theorem eval_kron (x : ℕ → V) (ar k : ℕ) (ch : Fin ar → Node R V) (i : ℕ) :
    (Node.kron ar k ch).eval (Ops.ofCommSemiring R) x i
      = ∏ h : Fin ar, (ch h).eval (Ops.ofCommSemiring R) x (digit k ar h.val i) := by
  simp only [Node.eval, prodFin_eq]

/-- A sum layer over a single input is a dense layer: column `0 * kin + j = j`. -/
theorem eval_dense (x : ℕ → V) (kin kout : ℕ) (W : ℕ → ℕ → R) (c : Node R V) (i : ℕ) :
    (Node.sum 1 kin kout W fun _ => c).eval (Ops.ofCommSemiring R) x i
      = ∑ j ∈ range kin, W i j * c.eval (Ops.ofCommSemiring R) x j := by
  simp only [eval_sum, Fin.sum_univ_one, Fin.val_zero, Nat.zero_mul, Nat.zero_add]

/-! Product layers over two inputs `a`, `b`, given as `fun h => if h.val = 0 then a else b`. -/

theorem eval_had_pair (x : ℕ → V) (k : ℕ) (a b : Node R V) (i : ℕ) :
    (Node.had 2 k fun h => if h.val = 0 then a else b).eval (Ops.ofCommSemiring R) x i
      = a.eval (Ops.ofCommSemiring R) x i * b.eval (Ops.ofCommSemiring R) x i := by
  simp only [eval_had, Fin.prod_univ_two, Fin.val_zero, Fin.val_one, if_true, Nat.one_ne_zero,
    if_false]

theorem eval_kron_pair (x : ℕ → V) (k : ℕ) (a b : Node R V) (i : ℕ) :
    (Node.kron 2 k fun h => if h.val = 0 then a else b).eval (Ops.ofCommSemiring R) x i
      = a.eval (Ops.ofCommSemiring R) x (digit k 2 0 i)
        * b.eval (Ops.ofCommSemiring R) x (digit k 2 1 i) := by
  simp only [eval_kron, Fin.prod_univ_two, Fin.val_zero, Fin.val_one, if_true, Nat.one_ne_zero,
    if_false]

omit [CommSemiring R] in
theorem wf_pair {a b : Node R V} {k : ℕ} (ha : a.WF ∧ a.units = k) (hb : b.WF ∧ b.units = k)
    (h : Fin 2) :
    (if h.val = 0 then a else b).WF ∧ (if h.val = 0 then a else b).units = k := by
  split <;> assumption

end Node
end

end Cirkit
