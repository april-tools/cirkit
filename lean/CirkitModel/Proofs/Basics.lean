/-
  CirkitModel.Proofs.Basics — small facts about core data that several proof modules share:
  row-major index arithmetic on `ℕ`, the mixed-radix digits of `CirkitModel.Model.Basic.digit`,
  congruence of the sums and products of an operation record, `List.getD` against `map` / `range`,
  lists with keys, and inversion of guarded `Option` / `Except` computations.
-/
import Mathlib.Data.List.GetD
import Mathlib.Data.List.Nodup
import CirkitModel.Model.Basic

namespace Cirkit

theorem div_of_lt_add {i b j : ℕ} (hj : j < b) : (i * b + j) / b = i := by
  rw [Nat.mul_comm, Nat.mul_add_div (Nat.zero_lt_of_lt hj), Nat.div_eq_of_lt hj, Nat.add_zero]

theorem div_mod_lt {ar kin m : ℕ} (h : m < ar * kin) : m / kin < ar ∧ m % kin < kin :=
  ⟨Nat.div_lt_of_lt_mul (Nat.mul_comm ar kin ▸ h),
    Nat.mod_lt _ (Nat.pos_of_ne_zero fun h0 => by rw [h0, Nat.mul_zero] at h; cases h)⟩

theorem pair_lt {a b k1 k2 : ℕ} (ha : a < k1) (hb : b < k2) : a * k2 + b < k1 * k2 :=
  calc a * k2 + b < a * k2 + k2 := Nat.add_lt_add_left hb _
    _ = (a + 1) * k2 := (Nat.succ_mul a k2).symm
    _ ≤ k1 * k2 := Nat.mul_le_mul_right k2 ha

/-! The digits of `digit k ar · i` are those of `i` in base `k`, position `0` most significant:
input `h` of a Kronecker layer of arity `ar` reads `i / k ^ (ar - 1 - h) % k`. -/

/-- no `0 < k` is asked for: the bound on `i` excludes `k = 0` -/
theorem digit_lt_of_lt_pow {k ar i : ℕ} (h : Fin ar) (hi : i < k ^ ar) :
    digit k ar h.val i < k := by
  refine Nat.mod_lt _ (Nat.pos_of_ne_zero fun hk => ?_)
  rw [hk, Nat.zero_pow h.pos] at hi
  exact Nat.not_lt_zero _ hi

theorem digit_drop_first (k n h i : ℕ) : digit k (n + 1) (h + 1) i = digit k n h i := by
  unfold digit
  -- the exponents agree: `(n + 1) - 1 - (h + 1) = n - 1 - h`
  rw [Nat.add_sub_cancel, Nat.add_comm h 1, Nat.sub_add_eq]

theorem digit_drop_last (k n h i : ℕ) (hh : h < n) :
    digit k (n + 1) h i = digit k n h (i / k) := by
  obtain ⟨m, rfl⟩ := Nat.exists_eq_add_of_lt hh
  unfold digit
  -- with `n = h + m + 1` the exponents are `m + 1` and `m`, and `i / k ^ (m + 1) = i / k / k ^ m`
  have e1 : h + m + 1 + 1 - 1 - h = m + 1 := by
    rw [Nat.add_sub_cancel, Nat.add_assoc, Nat.add_sub_cancel_left]
  have e2 : h + m + 1 - 1 - h = m := by rw [Nat.add_sub_cancel, Nat.add_sub_cancel_left]
  rw [e1, e2, Nat.pow_succ, Nat.mul_comm, Nat.div_div_eq_div_mul]

theorem digit_last (k n i : ℕ) : digit k (n + 1) n i = i % k := by
  unfold digit
  rw [Nat.add_sub_cancel, Nat.sub_self, Nat.pow_zero, Nat.div_one]

theorem digit_two_zero {k i j : ℕ} (hi : i < k) (hj : j < k) : digit k 2 0 (i * k + j) = i := by
  rw [digit_drop_last k 1 0 _ Nat.one_pos, div_of_lt_add hj, digit_last, Nat.mod_eq_of_lt hi]

theorem digit_two_one {k i j : ℕ} (hj : j < k) : digit k 2 1 (i * k + j) = j := by
  rw [digit_last, Nat.mul_add_mod_of_lt hj]

theorem Ops.sumN_congr {R : Type} (o : Ops R) {n : Nat} {f g : Nat → R}
    (h : ∀ i, i < n → f i = g i) : o.sumN n f = o.sumN n g := by
  induction n with
  | zero => rfl
  | succ n ih => rw [Ops.sumN, ih fun i hi => h i (Nat.lt_succ_of_lt hi), h n n.lt_succ_self]; rfl

theorem Ops.prodN_congr {R : Type} (o : Ops R) {n : Nat} {f g : Nat → R}
    (h : ∀ i, i < n → f i = g i) : o.prodN n f = o.prodN n g := by
  induction n with
  | zero => rfl
  | succ n ih => rw [Ops.prodN, ih fun i hi => h i (Nat.lt_succ_of_lt hi), h n n.lt_succ_self]; rfl

/-! `List.getD` at an index in range, against membership, `map` and `range` (Mathlib's
`List.getD_map` wants the default of the image to be `F d`; here the two defaults are unrelated). -/

section getD
variable {β γ : Type}

theorem getD_mem {l : List β} {i : ℕ} (h : i < l.length) (d : β) : l.getD i d ∈ l := by
  rw [List.getD_eq_getElem _ _ h]
  exact List.getElem_mem h

theorem getD_map_of_lt (F : β → γ) {l : List β} {i : ℕ} (h : i < l.length) (d : β) (d' : γ) :
    (l.map F).getD i d' = F (l.getD i d) := by
  rw [List.getD_eq_getElem _ _ (by rw [List.length_map]; exact h), List.getElem_map,
    List.getD_eq_getElem _ _ h]

theorem getD_map_range (G : ℕ → β) {n i : ℕ} (h : i < n) (d : β) :
    ((List.range n).map G).getD i d = G i := by
  rw [getD_map_of_lt G (by rw [List.length_range]; exact h) 0, List.getD_eq_getElem _ _
    (by rw [List.length_range]; exact h), List.getElem_range]

theorem map_getD_range (l : List β) (d : β) : (List.range l.length).map (l.getD · d) = l := by
  refine List.ext_getElem (by rw [List.length_map, List.length_range]) (fun i _ h => ?_)
  rw [List.getElem_map, List.getElem_range, List.getD_eq_getElem _ _ h]

theorem map_eq_of_getD {l : List β} {l' : List γ} {F : β → γ} (d : β) (d' : γ)
    (hlen : l.length = l'.length) (h : ∀ i < l.length, F (l.getD i d) = l'.getD i d') :
    l.map F = l' := by
  refine List.ext_getElem (by rw [List.length_map, hlen]) (fun i h1 h2 => ?_)
  rw [List.length_map] at h1
  rw [List.getElem_map, List.getElem_eq_getD d, List.getElem_eq_getD d']
  exact h i h1

theorem forall_mem_of_getD {l : List β} {P : β → Prop} (d : β)
    (h : ∀ i < l.length, P (l.getD i d)) : ∀ x ∈ l, P x :=
  List.forall_mem_iff_forall_getElem.mpr fun i hi => List.getElem_eq_getD d ▸ h i hi

end getD

theorem getD_arrayOfFn {α : Type} {n : ℕ} (f : Fin n → α) (i : ℕ) (h : i < n) (d : α) :
    (Array.ofFn f).getD i d = f ⟨i, h⟩ := by
  simp [Array.getD, h]

theorem nodup_snoc {α : Type} {l : List α} {a : α} (h : l.Nodup) (ha : a ∉ l) : (l ++ [a]).Nodup :=
  List.concat_eq_append ▸ h.concat ha

theorem nodup_map_snoc {α κ : Type} {f : α → κ} {l : List α} {a : α} (h : (l.map f).Nodup)
    (ha : ∀ x ∈ l, f x ≠ f a) : ((l ++ [a]).map f).Nodup := by
  rw [List.map_append]
  exact nodup_snoc h fun hm => let ⟨x, hx, e⟩ := List.mem_map.1 hm; ha x hx e

theorem find?_key_some {α κ : Type} [BEq κ] [LawfulBEq κ] {f : α → κ} {l : List α} {k : κ}
    {a : α} (h : l.find? (f · == k) = some a) : a ∈ l ∧ f a = k :=
  ⟨List.mem_of_find?_eq_some h, eq_of_beq (List.find?_some (p := fun y => f y == k) h)⟩

theorem find?_key_eq_some_iff {α κ : Type} [DecidableEq κ] {f : α → κ} {l : List α}
    (hnd : (l.map f).Nodup) {k : κ} {a : α} :
    l.find? (f · == k) = some a ↔ a ∈ l ∧ f a = k := by
  refine ⟨find?_key_some, fun ⟨ha, hk⟩ => ?_⟩
  cases hb : l.find? (f · == k) with
  | none => exact absurd (beq_iff_eq.mpr hk) (Bool.not_eq_true _ ▸ List.find?_eq_none.mp hb a ha)
  | some b =>
    rw [List.inj_on_of_nodup_map hnd (find?_key_some hb).1 ha ((find?_key_some hb).2.trans hk.symm)]

theorem bnot_and_iff {s d : Bool} : (!(s && d)) = true ↔ ¬ (s = true ∧ d = true) := by
  rw [Bool.not_eq_true', ← Bool.not_eq_true, Bool.and_eq_true]

theorem ite_bind {α β : Type} {c : Prop} [Decidable c] (x : α) (g : α → Option β) :
    (if c then some x else none).bind g = if c then g x else none :=
  apply_ite (·.bind g) c (some x) none

theorem of_ite_some {α : Type} {c : Prop} [Decidable c] {x r : α}
    (h : (if c then some x else none) = some r) : c ∧ x = r :=
  (Option.ite_none_right_eq_some.1 h).imp_right Option.some.inj

theorem ite_some_eq_none {ε : Type} {p : Prop} [Decidable p] {e : ε} {r : Option ε} :
    (if p then some e else r) = none ↔ ¬ p ∧ r = none := by
  split <;> simp [*]

theorem bind_eq_ok {ε α β : Type} {x : Except ε α} {f : α → Except ε β} {b : β}
    (h : x >>= f = .ok b) : ∃ a, x = .ok a ∧ f a = .ok b := by
  cases x with
  | error e => cases h
  | ok a => exact ⟨a, rfl, h⟩

theorem mapM_option_mem {α β : Type} (f : α → Option β) :
    ∀ (l : List α) (r : List β), l.mapM f = some r → ∀ y ∈ r, ∃ x ∈ l, f x = some y
  | [], r, h, y, hy => by
    rw [List.mapM_nil] at h; cases h; cases hy
  | a :: l, r, h, y, hy => by
    rw [List.mapM_cons] at h
    obtain ⟨b, hb, h⟩ := Option.bind_eq_some_iff.mp h
    obtain ⟨bs, hbs, h⟩ := Option.bind_eq_some_iff.mp h
    cases h
    rcases List.mem_cons.mp hy with rfl | hy
    · exact ⟨a, List.mem_cons_self, hb⟩
    · obtain ⟨x, hx, hfx⟩ := mapM_option_mem f l bs hbs y hy
      exact ⟨x, List.mem_cons_of_mem _ hx, hfx⟩

end Cirkit
