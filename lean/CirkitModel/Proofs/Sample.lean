/-
  CirkitModel.Proofs.Sample — behind the "propagate = follow" part of C15: the bottom-up
  propagation (`Node.propagate`) returns, column by column, the assignment of the top-down walk
  (`Node.follow`); the walk assigns the whole scope from input layers of the right variable, and
  is a walk in the sense of `Node.Reach`.
-/
import Mathlib.Algebra.BigOperators.Group.Finset.Basic
import CirkitModel.Model.Sample
import CirkitModel.Proofs.Norm

open Finset

namespace Cirkit

section folds
variable {A : Type}

theorem Draw.foldN_eq [AddCommMonoid A] (n : ℕ) (f : ℕ → A) :
    Draw.foldN 0 (· + ·) n f = ∑ i ∈ range n, f i := by
  induction n with
  | zero => rfl
  | succ n ih => rw [Draw.foldN, ih, Finset.sum_range_succ]

theorem Draw.foldFin_eq [AddCommMonoid A] (n : ℕ) (f : Fin n → A) :
    Draw.foldFin 0 (· + ·) n f = ∑ h : Fin n, f h := by
  unfold Draw.foldFin
  rw [Draw.foldN_eq, Finset.sum_fin_eq_sum_range]

theorem Draw.firstN_eq (n : ℕ) (f : ℕ → Option A) :
    Draw.firstN n f = (List.range n).findSome? f := by
  induction n with
  | zero => rfl
  | succ n ih =>
    rw [Draw.firstN, ih, List.range_succ, List.findSome?_append, List.findSome?_singleton]
    cases (List.range n).findSome? f <;> rfl

theorem Draw.firstN_some {n : ℕ} {f : ℕ → Option A} {a : A} (h : Draw.firstN n f = some a) :
    ∃ i < n, f i = some a :=
  (List.exists_of_findSome?_eq_some (Draw.firstN_eq n f ▸ h)).imp fun _ hi =>
    ⟨List.mem_range.1 hi.1, hi.2⟩

theorem Draw.firstN_isSome {n : ℕ} {f : ℕ → Option A} {i : ℕ} (hi : i < n)
    (h : (f i).isSome) : (Draw.firstN n f).isSome :=
  Draw.firstN_eq n f ▸ List.findSome?_isSome_iff.2 ⟨i, List.mem_range.2 hi, h⟩

theorem Draw.firstFin_some {n : ℕ} {f : Fin n → Option A} {a : A}
    (h : Draw.firstFin n f = some a) : ∃ i, f i = some a := by
  obtain ⟨i, hi, hfi⟩ := Draw.firstN_some h
  exact ⟨⟨i, hi⟩, by rwa [dif_pos hi] at hfi⟩

theorem Draw.firstFin_isSome {n : ℕ} {f : Fin n → Option A} (i : Fin n)
    (h : (f i).isSome) : (Draw.firstFin n f).isSome :=
  Draw.firstN_isSome i.isLt (by rwa [dif_pos i.isLt])

theorem Draw.firstFin_single {n : ℕ} {f : Fin n → Option A} (i0 : Fin n) {a : A}
    (h0 : f i0 = some a) (h : ∀ i, i ≠ i0 → f i = none) : Draw.firstFin n f = some a := by
  obtain ⟨b, hb⟩ :=
    Option.isSome_iff_exists.mp (Draw.firstFin_isSome i0 (congrArg Option.isSome h0))
  obtain ⟨i, hi⟩ := Draw.firstFin_some hb
  by_cases e : i = i0
  · rw [hb, ← hi, e, h0]
  · cases (h i e).symm.trans hi

/-- The algebraic content of "summing padded samples over disjoint variables is concatenation". -/
theorem Draw.firstFin_getD_eq_sum [AddCommMonoid A] {n : ℕ} (f : Fin n → Option A)
    (hdis : ∀ h h', h ≠ h' → f h ≠ none → f h' = none) :
    (Draw.firstFin n f).getD 0 = ∑ h : Fin n, (f h).getD 0 := by
  cases hf : Draw.firstFin n f with
  | none =>
    refine (Finset.sum_eq_zero fun h _ => ?_).symm
    cases hh : f h with
    | none => rfl
    | some a =>
      -- then `firstFin n f` would be `some`, against `hf`
      cases hf ▸ Draw.firstFin_isSome h (congrArg Option.isSome hh)
  | some a =>
    obtain ⟨h0, ha⟩ := Draw.firstFin_some hf
    -- entry `h0` is the one that is `some`; every other entry adds `none.getD 0 = 0`
    have hne : f h0 ≠ none := ha ▸ nofun
    have hzero : ∀ h ∈ Finset.univ, h ≠ h0 → (f h).getD 0 = 0 := fun h _ hh => by
      rw [hdis h0 h hh.symm hne]; rfl
    rw [Finset.sum_eq_single h0 hzero (fun hn => absurd (Finset.mem_univ h0) hn), ha]

end folds

section support
variable {R V A : Type}

theorem Node.follow_some_mem (n : Node R V) (d : Draw A) (i v : ℕ) (a : A)
    (h : n.follow d i v = some a) : Node.Mem v n := by
  induction n generalizing d i with
  | leaf v' k f => exact of_not_not fun hv => nomatch (if_neg hv).symm.trans h
  | const k c => cases h
  | sum ar kin kout W ch ih =>
    by_cases hlt : d.col [] i / kin < ar
    · exact ⟨⟨_, hlt⟩, ih _ _ _ ((dif_pos hlt).symm.trans h)⟩
    · exact nomatch (dif_neg hlt).symm.trans h
  | had ar k ch ih | kron ar k ch ih =>
    obtain ⟨h', hh'⟩ := Draw.firstFin_some h
    exact ⟨h', ih h' _ _ hh'⟩

theorem Node.follow_disjoint {n n' : Node R V} {v : ℕ} (hdis : Node.Mem v n → ¬ Node.Mem v n')
    {d d' : Draw A} {i i' : ℕ} {a : A} (h : n.follow d i v = some a) : n'.follow d' i' v = none :=
  Option.eq_none_iff_forall_ne_some.2 fun b hb =>
    hdis (Node.follow_some_mem n d i v a h) (Node.follow_some_mem n' d' i' v b hb)

/-- `idx` is arbitrary, so that Hadamard (`idx h = i`) and Kronecker (`idx h = digit k ar h i`)
    layers are both instances. -/
theorem Node.firstFin_follow_of_child {ar : ℕ} (ch : Fin ar → Node R V)
    (hdis : ∀ h h' v, h ≠ h' → Node.Mem v (ch h) → ¬ Node.Mem v (ch h')) (d : Draw A)
    (idx : Fin ar → ℕ) {h : Fin ar} {v : ℕ} {a : A}
    (hva : (ch h).follow (d.child h.val) (idx h) v = some a) :
    Draw.firstFin ar (fun h' => (ch h').follow (d.child h'.val) (idx h') v) = some a :=
  Draw.firstFin_single h hva fun h' hne => Node.follow_disjoint (hdis h h' v (Ne.symm hne)) hva

theorem Node.propagate_support [AddCommMonoid A] (n : Node R V) (d : Draw A) (i v : ℕ)
    (h : n.propagate 0 (· + ·) d i v ≠ 0) : Node.Mem v n := by
  induction n generalizing d i with
  | leaf v' k f => exact of_not_not fun hv => h (if_neg hv)
  | const k c => exact absurd rfl h
  | sum ar kin kout W ch ih =>
    by_cases hlt : d.col [] i / kin < ar
    · exact ⟨⟨_, hlt⟩, ih _ _ _ ((dif_pos hlt).symm.trans_ne h)⟩
    · exact absurd (dif_neg hlt) h
  | had ar k ch ih | kron ar k ch ih =>
    -- the row of a product layer is the sum of the rows of its inputs (`foldFin_eq`)
    obtain ⟨h', _, hh'⟩ :=
      Finset.exists_ne_zero_of_sum_ne_zero ((Draw.foldFin_eq ar _).symm.trans_ne h)
    exact ⟨h', ih h' _ _ hh'⟩

theorem Node.propagate_eq_follow [AddCommMonoid A] (n : Node R V) (hd : n.Decomp) (d : Draw A)
    (i v : ℕ) : n.propagate 0 (· + ·) d i v = (n.follow d i v).getD 0 := by
  induction n generalizing d i with
  | leaf v' k f =>
    unfold Node.propagate Node.follow
    split <;> rfl
  | const k c => rfl
  | sum ar kin kout W ch ih =>
    unfold Node.propagate Node.follow
    split
    · exact ih _ (hd _) _ _
    · rfl
  | had ar k ch ih | kron ar k ch ih =>
    refine (Draw.foldFin_eq ar _).trans (.trans ?_ (Draw.firstFin_getD_eq_sum _ ?_).symm)
    · exact Finset.sum_congr rfl fun h _ => ih h (hd.1 h) _ _
    · intro h h' hne hsome
      obtain ⟨a, ha⟩ := Option.ne_none_iff_exists'.mp hsome
      exact Node.follow_disjoint (hd.2 h h' v hne) ha

/-- One induction for both halves, which share the in-range facts; only totality needs
    smoothness. -/
theorem Node.follow_complete (n : Node R V) (hwf : n.WF) (d : Draw A) (hf : n.Fits d) (i : ℕ)
    (hi : i < n.units) :
    (n.Smooth → ∀ v, Node.Mem v n → (n.follow d i v).isSome)
      ∧ ∀ v a, n.follow d i v = some a → ∃ p r, n.LeafAt v p r ∧ a = d.val p r := by
  induction n generalizing d i with
  | leaf v' k f =>
    refine ⟨fun _ v hv => congrArg Option.isSome (if_pos hv), fun v a h => ?_⟩
    by_cases hv : v = v'
    · exact ⟨[], i, ⟨hv, hi⟩, (Option.some.inj ((if_pos hv).symm.trans h)).symm⟩
    · exact nomatch (if_neg hv).symm.trans h
  | const k c => exact ⟨fun _ v hv => hv.elim, fun v a h => nomatch h⟩
  | sum ar kin kout W ch ih =>
    obtain ⟨hlt, hmod⟩ := div_mod_lt (hf.1 i hi)
    have ih := ih ⟨_, hlt⟩ (hwf _).1 _ (hf.2 _) (d.col [] i % kin) ((hwf _).2.symm ▸ hmod)
    have hfol : ∀ v, (Node.sum ar kin kout W ch).follow d i v =
        (ch ⟨d.col [] i / kin, hlt⟩).follow (d.child (d.col [] i / kin)) (d.col [] i % kin) v :=
      fun v => dif_pos hlt
    refine ⟨fun hs v ⟨h0, hv⟩ => hfol v ▸ ih.1 (hs.1 _) v ((hs.2 h0 _ v).mp hv), fun v a h => ?_⟩
    obtain ⟨p, r, hl, hv⟩ := ih.2 v a ((hfol v).symm.trans h)
    exact ⟨_ :: p, r, ⟨hlt, hl⟩, hv⟩
  | had ar k ch ih =>
    have ih := fun h => ih h (hwf h).1 _ (hf h) i ((hwf h).2.symm ▸ hi)
    refine ⟨fun hs v ⟨h0, hv⟩ => Draw.firstFin_isSome h0 ((ih h0).1 (hs h0) v hv), fun v a h => ?_⟩
    obtain ⟨h0, hh0⟩ := Draw.firstFin_some h
    obtain ⟨p, r, hl, hv⟩ := (ih h0).2 v a hh0
    exact ⟨h0.val :: p, r, ⟨h0.isLt, hl⟩, hv⟩
  | kron ar k ch ih =>
    have ih := fun h => ih h (hwf h).1 _ (hf h) (digit k ar h.val i)
      ((hwf h).2.symm ▸ digit_lt_of_lt_pow h hi)
    refine ⟨fun hs v ⟨h0, hv⟩ => Draw.firstFin_isSome h0 ((ih h0).1 (hs h0) v hv), fun v a h => ?_⟩
    obtain ⟨h0, hh0⟩ := Draw.firstFin_some h
    obtain ⟨p, r, hl, hv⟩ := (ih h0).2 v a hh0
    exact ⟨h0.val :: p, r, ⟨h0.isLt, hl⟩, hv⟩

theorem Node.LeafAt.mem {n : Node R V} {v : ℕ} {p : List ℕ} {r : ℕ} (h : n.LeafAt v p r) :
    Node.Mem v n := by
  induction n generalizing p with
  | leaf v' k f =>
    cases p with
    | nil => exact h.1
    | cons _ _ => exact h.elim
  | const k c => cases p <;> exact h.elim
  | sum ar kin kout W ch ih | had ar k ch ih | kron ar k ch ih =>
    cases p with
    | nil => exact h.elim
    | cons h0 p => obtain ⟨hh, hl⟩ := h; exact ⟨⟨h0, hh⟩, ih _ hl⟩

end support

section reach
variable {R V : Type} [CommSemiring R] [PartialOrder R]

theorem Node.follow_reach (n : Node R V) (hwf : n.WF) (hd : n.Decomp) (d : Draw V)
    (hf : n.Fits d) (hp : n.DrawPos d) (i : ℕ) (hi : i < n.units) (x : ℕ → V)
    (hx : ∀ v a, n.follow d i v = some a → x v = a) : n.Reach i x := by
  induction n generalizing d i with
  | leaf v k f =>
    refine Node.Reach.leaf ?_
    rw [hx v _ (if_pos rfl)]
    exact hp i hi
  | const k c => exact Node.Reach.const (hp i hi)
  | sum ar kin kout W ch ih =>
    obtain ⟨hlt, hmod⟩ := div_mod_lt (hf.1 i hi)
    refine Node.Reach.sum ⟨_, hlt⟩ (d.col [] i % kin) hmod ?_ ?_
    · rw [Nat.div_add_mod']
      exact hp.1 i hi
    · exact ih _ (hwf _).1 (hd _) _ (hf.2 ⟨_, hlt⟩) (hp.2 ⟨_, hlt⟩) _
        ((hwf _).2.symm ▸ hmod) fun v a hva => hx v a ((dif_pos hlt).trans hva)
  | had ar k ch ih =>
    exact Node.Reach.had fun h =>
      ih h (hwf h).1 (hd.1 h) _ (hf h) (hp h) _ ((hwf h).2.symm ▸ hi) fun v a hva =>
        hx v a (Node.firstFin_follow_of_child ch hd.2 d _ hva)
  | kron ar k ch ih =>
    exact Node.Reach.kron fun h =>
      ih h (hwf h).1 (hd.1 h) _ (hf h) (hp h) _
        ((hwf h).2.symm ▸ digit_lt_of_lt_pow h hi) fun v a hva =>
          hx v a (Node.firstFin_follow_of_child ch hd.2 d _ hva)

end reach
end Cirkit
