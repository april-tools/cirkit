/-
  CirkitModel.Proofs.PipelineOrder — `pipeline_topological_ordering` (`pipelineOrder`: `bfs`, then
  Kahn's algorithm over the nodes `bfs` found) on a finite DAG returns a duplicate-free list of
  existing nodes that contains the root, is closed under operands and lists every node after its
  operands (`pipelineOrder_spec`).  `bfs` and Kahn's algorithm each carry a loop invariant (`BInv`,
  `KInv`) to an empty queue.
-/
import CirkitModel.Model.Registry
import CirkitModel.Proofs.Basics
import Mathlib.Data.List.Nodup
import CirkitModel.Spec.Graphs

namespace Cirkit

theorem length_le_of_nodup_lt {l : List ℕ} (hnd : l.Nodup) {L : ℕ} (h : ∀ x ∈ l, x < L) :
    l.length ≤ L := by
  have := hnd.length_le_of_subset (l₂ := List.range L) fun x hx => List.mem_range.mpr (h x hx)
  rwa [List.length_range] at this

/-- "Every element `x` of the list satisfies `P` together with the elements `l1` before it" holds
    of `l ++ [a]` iff it holds of `l` and `a` satisfies `P` together with `l`.  (The elements after
    `x` play no role, which is why appending at the end changes nothing for the old elements.) -/
theorem forall_split_snoc {α : Type} {P : List α → α → Prop} {l : List α} {a : α} :
    (∀ l1 x l2, l ++ [a] = l1 ++ x :: l2 → P l1 x) ↔
      (∀ l1 x l2, l = l1 ++ x :: l2 → P l1 x) ∧ P l a := by
  constructor
  · intro h
    exact ⟨fun l1 x l2 he => h l1 x (l2 ++ [a]) (by rw [he, List.append_assoc]; rfl), h l a [] rfl⟩
  · rintro ⟨h1, h2⟩ l1 x l2 he
    rcases List.eq_nil_or_concat' l2 with rfl | ⟨l2', b, rfl⟩
    · obtain ⟨rfl, e2⟩ := List.append_inj' (t₁ := [a]) (t₂ := [x]) he rfl
      cases e2; exact h2
    · rw [← List.cons_append, ← List.append_assoc] at he
      exact h1 l1 x l2' (List.append_inj' he rfl).1

theorem alookup_nil {β : Type} (k : ℕ) : alookup ([] : List (ℕ × β)) k = none := rfl

theorem alookup_cons {β : Type} (p : ℕ × β) (l : List (ℕ × β)) (k : ℕ) :
    alookup (p :: l) k = if p.1 = k then some p.2 else alookup l k := by
  rw [alookup, List.find?_cons]
  by_cases h : p.1 = k
  · rw [if_pos h, beq_iff_eq.mpr h]; rfl
  · rw [if_neg h, beq_eq_false_iff_ne.mpr h]; rfl

theorem alookup_isSome_iff {β : Type} (l : List (ℕ × β)) (k : ℕ) :
    (alookup l k).isSome ↔ k ∈ l.map (·.1) := by
  rw [alookup, Option.isSome_map, List.find?_isSome, List.mem_map]
  simp only [beq_iff_eq]

theorem alookup_append {β : Type} (l₁ l₂ : List (ℕ × β)) (k : ℕ) :
    alookup (l₁ ++ l₂) k = (alookup l₁ k).or (alookup l₂ k) := by
  rw [alookup, List.find?_append, Option.map_or]; rfl

theorem alookup_eq_none_iff {β : Type} (l : List (ℕ × β)) (k : ℕ) :
    alookup l k = none ↔ k ∉ l.map (·.1) := by
  rw [← alookup_isSome_iff, Option.not_isSome_iff_eq_none]

theorem exists_mem_fst_snd {α β : Type} {l : List (α × β)} {a : α} {b : β} :
    (∃ p, (p ∈ l ∧ p.1 = a) ∧ p.2 = b) ↔ (a, b) ∈ l :=
  ⟨fun ⟨_, ⟨hp, h1⟩, h2⟩ => h1 ▸ h2 ▸ hp, fun hp => ⟨_, ⟨hp, rfl⟩, rfl⟩⟩

theorem alookup_eq_some_iff {β : Type} (l : List (ℕ × β)) (hnd : (l.map (·.1)).Nodup) (k : ℕ)
    (v : β) : alookup l k = some v ↔ (k, v) ∈ l := by
  rw [alookup, Option.map_eq_some_iff]
  simp only [find?_key_eq_some_iff hnd]
  exact exists_mem_fst_snd

/-- A fuelled work-list loop `loop fuel queue s out` that outputs the head of the queue in every
    iteration, with an invariant `I` that bounds the number of outputs by `N`: with `N + 1` units of
    fuel (less one per node already output) it stops with an empty queue, in a state satisfying `I`.
    Every iteration outputs one node and uses one unit of fuel, so the fuel cannot run out first. -/
theorem worklist_spec {S : Type} {loop : ℕ → List ℕ → S → List ℕ → List ℕ}
    {add : ℕ → S → List ℕ} {upd : ℕ → S → S}
    (h1 : ∀ f s out, loop (f + 1) [] s out = out)
    (h2 : ∀ f n q s out, loop (f + 1) (n :: q) s out = loop f (q ++ add n s) (upd n s) (out ++ [n]))
    {I : List ℕ → S → List ℕ → Prop} {N : ℕ}
    (hlen : ∀ {q s out}, I q s out → out.length ≤ N)
    (hstep : ∀ {n q s out}, I (n :: q) s out → I (q ++ add n s) (upd n s) (out ++ [n])) :
    ∀ (fuel : ℕ) (q : List ℕ) (s : S) (out : List ℕ), I q s out → N + 1 ≤ fuel + out.length →
      ∃ s', I [] s' (loop fuel q s out) := by
  intro fuel
  induction fuel with
  | zero =>
    intro q s out h hfuel
    exact absurd (Nat.le_trans hfuel (Nat.zero_add _ ▸ hlen h)) (Nat.not_succ_le_self N)
  | succ fuel ih =>
    intro q s out h hfuel
    cases q with
    | nil => exact ⟨s, (h1 fuel s out).symm ▸ h⟩
    | cons n q =>
      rw [h2]
      exact ih _ _ _ (hstep h) (by
        rwa [List.length_append, List.length_singleton, Nat.add_comm out.length, ← Nat.add_assoc])

/-- the step of the fold collecting the not yet seen operands of a dequeued node -/
def newsStep (seen acc : List ℕ) (ch : ℕ) : List ℕ :=
  if seen.contains ch || acc.contains ch then acc else acc ++ [ch]

theorem news_spec (seen : List ℕ) (l acc : List ℕ) (hacc : acc.Nodup) :
    (l.foldl (newsStep seen) acc).Nodup ∧
      ∀ x, x ∈ l.foldl (newsStep seen) acc ↔ x ∈ acc ∨ (x ∈ l ∧ x ∉ seen) := by
  induction l generalizing acc with
  | nil => exact ⟨hacc, fun x => ⟨.inl, fun h => h.elim id (nomatch ·.1)⟩⟩
  | cons ch l ih =>
    rw [List.foldl_cons]
    have hcond : (seen.contains ch || acc.contains ch) = true ↔ ch ∈ seen ∨ ch ∈ acc := by
      rw [Bool.or_eq_true, List.contains_iff_mem, List.contains_iff_mem]
    by_cases h : ch ∈ seen ∨ ch ∈ acc
    · -- `ch` is skipped: the new disjunct `x = ch ∧ x ∉ seen` on the right is absorbed by `x ∈ acc`
      rw [show newsStep seen acc ch = acc from if_pos (hcond.mpr h)]
      refine ⟨(ih acc hacc).1, fun x => ?_⟩
      have habsorb : x = ch ∧ x ∉ seen → x ∈ acc := fun ⟨e, hs⟩ => e ▸ h.resolve_left (e ▸ hs)
      rw [(ih acc hacc).2, List.mem_cons, or_and_right, ← or_assoc, or_iff_left_of_imp habsorb]
    · -- `ch` is appended: `x = ch` already gives the `x ∉ seen` it comes with on the right
      rw [not_or] at h
      rw [show newsStep seen acc ch = acc ++ [ch] from if_neg (mt hcond.mp (not_or.mpr h))]
      refine ⟨(ih _ (nodup_snoc hacc h.2)).1, fun x => ?_⟩
      have hunseen : x = ch → x ∉ seen := fun e => e ▸ h.1
      rw [(ih _ (nodup_snoc hacc h.2)).2, List.mem_append, List.mem_singleton, List.mem_cons,
        or_and_right, or_assoc, and_iff_left_of_imp hunseen]

theorem bfsOrder_zero (operands : ℕ → List ℕ) (queue seen out : List ℕ) :
    bfsOrder operands 0 queue seen out = out := by
  cases queue <;> rfl

theorem bfsOrder_succ_nil (operands : ℕ → List ℕ) (fuel : ℕ) (seen out : List ℕ) :
    bfsOrder operands (fuel + 1) [] seen out = out := rfl

/-- One iteration of `bfs`: `newsStep seen` is the body of the fold over the operands of the
    dequeued node. -/
theorem bfsOrder_succ_cons (operands : ℕ → List ℕ) (fuel n : ℕ) (queue seen out : List ℕ) :
    bfsOrder operands (fuel + 1) (n :: queue) seen out =
      bfsOrder operands fuel (queue ++ (operands n).foldl (newsStep seen) [])
        (seen ++ (operands n).foldl (newsStep seen) []) (out ++ [n]) := rfl

section
variable {operands : ℕ → List ℕ} {L : ℕ} {queue seen out : List ℕ}

/-- invariant of the loop of `bfs`: `seen` lists the nodes output or queued, once each; they are
    `< L`, and the operands of the nodes output have all been seen -/
structure BInv (operands : ℕ → List ℕ) (L : ℕ) (queue seen out : List ℕ) : Prop where
  eq : seen = out ++ queue
  nodup : seen.Nodup
  lt : ∀ x ∈ seen, x < L
  closed : ∀ n ∈ out, ∀ o ∈ operands n, o ∈ seen

theorem BInv.step {n : ℕ} (hL : ∀ n < L, ∀ o ∈ operands n, o < L)
    (h : BInv operands L (n :: queue) seen out) :
    BInv operands L (queue ++ (operands n).foldl (newsStep seen) [])
      (seen ++ (operands n).foldl (newsStep seen) []) (out ++ [n]) := by
  obtain ⟨hn1, hn2⟩ := news_spec seen (operands n) [] List.nodup_nil
  simp only [List.not_mem_nil, false_or] at hn2
  have hn : n ∈ seen := h.eq ▸ List.mem_append_right _ List.mem_cons_self
  refine ⟨?_, ?_, fun x hx => ?_, fun m hm o ho => ?_⟩
  · rw [h.eq, List.append_assoc, List.append_assoc]; rfl
  · -- the news are unseen
    exact h.nodup.append hn1 fun x hx hx' => ((hn2 x).mp hx').2 hx
  · -- a news is an operand of `n`, and `n < L`
    exact (List.mem_append.mp hx).elim (h.lt x) fun hx => hL n (h.lt n hn) x ((hn2 x).mp hx).1
  · -- an operand of the new output `n` is either seen already or among the news
    rcases List.mem_append.mp hm with hm | hm
    · exact List.mem_append_left _ (h.closed m hm o ho)
    · rw [List.mem_singleton.mp hm] at ho
      by_cases hos : o ∈ seen
      · exact List.mem_append_left _ hos
      · exact List.mem_append_right _ ((hn2 o).mpr ⟨ho, hos⟩)

/-- `out` is duplicate-free with members `< L`, so `worklist_spec` applies with `N := L`; "what was
    seen at the start stays seen" is carried along with the invariant. -/
theorem bfsOrder_spec (hL : ∀ n < L, ∀ o ∈ operands n, o < L) (fuel : ℕ) (queue seen out : List ℕ)
    (h : BInv operands L queue seen out) (hfuel : L + 1 ≤ fuel + out.length) :
    BInv operands L [] (bfsOrder operands fuel queue seen out)
        (bfsOrder operands fuel queue seen out) ∧
      ∀ x ∈ seen, x ∈ bfsOrder operands fuel queue seen out := by
  obtain ⟨seen', hB, hsub⟩ := worklist_spec
    (I := fun q s o => BInv operands L q s o ∧ ∀ x ∈ seen, x ∈ s)
    (bfsOrder_succ_nil operands) (bfsOrder_succ_cons operands)
    (fun h => length_le_of_nodup_lt (h.1.eq ▸ h.1.nodup).of_append_left
      fun x hx => h.1.lt x (h.1.eq ▸ List.mem_append_left _ hx))
    (fun h => ⟨h.1.step hL, fun x hx => List.mem_append_left _ (h.2 x hx)⟩)
    fuel queue seen out ⟨h, fun _ hx => hx⟩ hfuel
  obtain rfl : seen' = _ := hB.eq.trans (List.append_nil _)
  exact ⟨hB, hsub⟩

end

/-- `l` lists every node after all of its operands -/
def Topo (operands : ℕ → List ℕ) (l : List ℕ) : Prop :=
  ∀ l1 x l2, l = l1 ++ x :: l2 → ∀ o ∈ operands x, o ∈ l1

theorem topo_snoc {operands : ℕ → List ℕ} {l : List ℕ} {a : ℕ} :
    Topo operands (l ++ [a]) ↔ Topo operands l ∧ ∀ o ∈ operands a, o ∈ l :=
  forall_split_snoc (P := fun l1 x => ∀ o ∈ operands x, o ∈ l1)

/-- pending-input counter of `n` -/
def cnt (counts : List (ℕ × ℕ)) (n : ℕ) : ℕ := (alookup counts n).getD 0

theorem alookup_map_upd (counts : List (ℕ × ℕ)) (n v m : ℕ) :
    alookup (counts.map fun p => if p.1 == n then (n, v) else p) m =
      if m = n then (alookup counts n).map (fun _ => v) else alookup counts m := by
  induction counts with
  | nil => exact (ite_self _).symm
  | cons p l ih =>
    rw [List.map_cons, alookup_cons, alookup_cons, alookup_cons, ih]
    by_cases h1 : p.1 = n
    · by_cases h2 : m = n
      · simp only [h1, BEq.rfl, ↓reduceIte, h2, Option.map_some]
      · simp only [h1, BEq.rfl, ↓reduceIte, Ne.symm h2, h2]
    · by_cases h2 : m = n
      · simp only [beq_iff_eq, h1, ↓reduceIte, h2]
      · simp only [beq_iff_eq, h1, ↓reduceIte, h2]

/-- the inner loop body of `topological_ordering`: decrement the counter of a consumer, enqueue it
    when the counter reaches 0 -/
def kstep (acc : List (ℕ × ℕ) × List ℕ) (n : ℕ) : List (ℕ × ℕ) × List ℕ :=
  let c := (alookup acc.1 n).getD 0
  let acc1 := acc.1.map fun p => if p.1 == n then (n, c - 1) else p
  if c - 1 == 0 && c != 0 then (acc1, acc.2 ++ [n]) else (acc1, acc.2)

theorem cnt_kstep (counts : List (ℕ × ℕ)) (ready : List ℕ) (n m : ℕ) :
    cnt (kstep (counts, ready) n).1 m = if n = m then cnt counts n - 1 else cnt counts m := by
  have : (kstep (counts, ready) n).1 =
      counts.map fun p => if p.1 == n then (n, cnt counts n - 1) else p := by
    unfold kstep; exact (apply_ite Prod.fst _ _ _).trans (ite_self _)
  rw [this, cnt, alookup_map_upd]
  by_cases h : n = m
  · rw [if_pos h.symm, if_pos h, cnt]; cases alookup counts n <;> rfl
  · rw [if_neg (Ne.symm h), if_neg h, cnt]

theorem kstep_snd (counts : List (ℕ × ℕ)) (ready : List ℕ) (n : ℕ) :
    (kstep (counts, ready) n).2 = ready ++ if cnt counts n = 1 then [n] else [] := by
  unfold kstep cnt
  -- the guard `c - 1 == 0 && c != 0` of `kstep` holds exactly for `c = 1`: cases c = 0, 1, k + 2
  rcases (alookup counts n).getD 0 with _ | _ | k
  · exact (List.append_nil _).symm
  · rfl
  · exact (List.append_nil _).symm

theorem kfold_cnt (l : List ℕ) (counts : List (ℕ × ℕ)) (ready : List ℕ) (m : ℕ) :
    cnt (l.foldl kstep (counts, ready)).1 m = cnt counts m - l.count m := by
  induction l generalizing counts ready with
  | nil => rfl
  | cons n l ih =>
    rw [List.foldl_cons, ih (kstep (counts, ready) n).1 (kstep (counts, ready) n).2, cnt_kstep]
    by_cases hm : n = m
    · subst hm; rw [if_pos rfl, List.count_cons_self, Nat.sub_sub, Nat.add_comm]
    · rw [if_neg hm, List.count_cons_of_ne hm]

/-- `r`: the nodes that become ready while the consumers `l` are processed — counter positive, and
    at least that many occurrences in `l`. -/
theorem kfold_ready (l : List ℕ) (counts : List (ℕ × ℕ)) (ready : List ℕ) :
    ∃ r, (l.foldl kstep (counts, ready)).2 = ready ++ r ∧ r.Nodup ∧
      ∀ m, m ∈ r ↔ cnt counts m ≠ 0 ∧ cnt counts m ≤ l.count m := by
  induction l generalizing counts ready with
  | nil => exact ⟨[], (List.append_nil _).symm, List.nodup_nil,
      fun m => ⟨nofun, fun h => absurd (Nat.le_zero.mp h.2) h.1⟩⟩
  | cons n l ih =>
    obtain ⟨r, h2, h3, h4⟩ := ih (kstep (counts, ready) n).1 (kstep (counts, ready) n).2
    have hc := cnt_kstep counts ready n
    refine ⟨(if cnt counts n = 1 then [n] else []) ++ r, ?_, ?_, fun m => ?_⟩
    · rw [List.foldl_cons, h2, kstep_snd, List.append_assoc]
    · split
      · next h =>
        refine List.nodup_cons.mpr ⟨fun hn => ?_, h3⟩
        have := (h4 n).mp hn
        rw [hc, if_pos rfl, h] at this
        exact this.1 rfl
      · exact h3
    · rw [List.mem_append, h4, hc, List.mem_ite_nil_right, List.mem_singleton]
      by_cases hm : n = m
      · subst hm
        rw [if_pos rfl, List.count_cons_self]
        -- with `c` the counter of `n`: c = 0 is never ready; c = 1 is ready now; c = k + 2 is
        -- ready later iff `c - 1 ≤ l.count n`
        rcases cnt counts n with _ | _ | k <;> simp
      · rw [if_neg hm, List.count_cons_of_ne hm]
        exact or_iff_right fun h => hm h.2.symm

/-- the inner loop of `topological_ordering` for the dequeued node `child`: the new counters, and
    the consumers of `child` that became ready -/
def serve (operands : ℕ → List ℕ) (nodes : List ℕ) (counts : List (ℕ × ℕ)) (child : ℕ) :
    List (ℕ × ℕ) × List ℕ :=
  (outgoings operands nodes child).foldl kstep (counts, [])

theorem kahn_zero (operands : ℕ → List ℕ) (nodes queue : List ℕ) (counts : List (ℕ × ℕ))
    (out : List ℕ) : kahn operands nodes 0 queue counts out = out := by
  cases queue <;> rfl

theorem kahn_succ_nil (operands : ℕ → List ℕ) (nodes : List ℕ) (fuel : ℕ) (counts : List (ℕ × ℕ))
    (out : List ℕ) : kahn operands nodes (fuel + 1) [] counts out = out := rfl

/-- One iteration of Kahn's algorithm: `serve` is its inner loop, `kstep` the body of that. -/
theorem kahn_succ_cons (operands : ℕ → List ℕ) (nodes : List ℕ) (fuel child : ℕ) (queue : List ℕ)
    (counts : List (ℕ × ℕ)) (out : List ℕ) :
    kahn operands nodes (fuel + 1) (child :: queue) counts out =
      kahn operands nodes fuel (queue ++ (serve operands nodes counts child).2)
        (serve operands nodes counts child).1 (out ++ [child]) := rfl

section
variable {operands : ℕ → List ℕ} {nodes queue : List ℕ} {counts : List (ℕ × ℕ)} {out : List ℕ}

theorem outgoings_eq (n : ℕ) :
    outgoings operands nodes n =
      nodes.flatMap fun m => List.replicate ((operands m).count n) m := by
  unfold outgoings
  congr 1
  funext m
  induction operands m with
  | nil => rfl
  | cons a l ih =>
    rw [List.filterMap_cons, List.count_cons, ih]
    by_cases h : a = n
    · rw [if_pos (beq_iff_eq.mpr h), if_pos (beq_iff_eq.mpr h), List.replicate_succ]
    · rw [if_neg (mt beq_iff_eq.mp h), if_neg (mt beq_iff_eq.mp h)]; rfl

theorem outgoings_count (hN : nodes.Nodup) (child x : ℕ) :
    (outgoings operands nodes child).count x =
      if x ∈ nodes then (operands x).count child else 0 := by
  rw [outgoings_eq]
  induction nodes with
  | nil => rfl
  | cons m nodes ih =>
    rw [List.nodup_cons] at hN
    rw [List.flatMap_cons, List.count_append, ih hN.2, List.count_replicate]
    by_cases hx : m = x
    · subst hx; simp only [BEq.rfl, ↓reduceIte, hN.1, Nat.add_zero, List.mem_cons, or_false]
    · simp only [beq_iff_eq, hx, ↓reduceIte, Nat.zero_add, List.mem_cons, Ne.symm hx, false_or]

theorem not_contains_iff {l : List ℕ} {o : ℕ} : (!l.contains o) = true ↔ o ∉ l := by
  rw [Bool.not_eq_true', ← Bool.not_eq_true, List.contains_iff_mem]

theorem countP_not_contains_cons_of_mem {s l : List ℕ} {a : ℕ} (h : a ∈ s) :
    (a :: l).countP (fun o => !s.contains o) = l.countP (fun o => !s.contains o) :=
  List.countP_cons_of_neg fun h' => not_contains_iff.mp h' h

theorem countP_not_contains_cons_of_not_mem {s l : List ℕ} {a : ℕ} (h : a ∉ s) :
    (a :: l).countP (fun o => !s.contains o) = l.countP (fun o => !s.contains o) + 1 :=
  List.countP_cons_of_pos (not_contains_iff.mpr h)

theorem countP_snoc_out (out l : List ℕ) (child : ℕ) (hc : child ∉ out) :
    l.countP (fun o => !(out ++ [child]).contains o) + l.count child =
      l.countP (fun o => !out.contains o) := by
  induction l with
  | nil => rfl
  | cons a l ih =>
    rw [List.count_cons]
    by_cases h : a = child
    · subst h
      rw [countP_not_contains_cons_of_mem (List.mem_append_right _ List.mem_cons_self),
        countP_not_contains_cons_of_not_mem hc, if_pos (beq_self_eq_true a), ← ih, Nat.add_assoc]
    · rw [if_neg (mt beq_iff_eq.mp h), Nat.add_zero]
      by_cases ha : a ∈ out
      · rw [countP_not_contains_cons_of_mem (List.mem_append_left _ ha),
          countP_not_contains_cons_of_mem ha, ih]
      · have ha' : a ∉ out ++ [child] := fun hm =>
          (List.mem_append.mp hm).elim ha fun h' => h (List.mem_singleton.mp h')
        rw [countP_not_contains_cons_of_not_mem ha', countP_not_contains_cons_of_not_mem ha,
          ← ih, Nat.add_right_comm]

/-- invariant of the main loop of `topological_ordering`: `out ++ queue` lists, once each, exactly
    the nodes whose counter is 0, and the counter of a node is the number of its operand slots not
    yet served by `out` -/
structure KInv (operands : ℕ → List ℕ) (nodes queue : List ℕ) (counts : List (ℕ × ℕ))
    (out : List ℕ) : Prop where
  nodup : (out ++ queue).Nodup
  mem_iff : ∀ n, n ∈ out ++ queue ↔ n ∈ nodes ∧ cnt counts n = 0
  cnt_eq : ∀ n ∈ nodes, cnt counts n = (operands n).countP (fun o => !out.contains o)
  topo : Topo operands out

theorem KInv.operands_mem (h : KInv operands nodes queue counts out) {n : ℕ} (hn : n ∈ nodes) :
    cnt counts n = 0 ↔ ∀ o ∈ operands n, o ∈ out := by
  rw [h.cnt_eq n hn, List.countP_eq_zero]
  simp only [not_contains_iff, not_not]

/-- the counters `topological_ordering` starts from: every node with its number of operand
    slots -/
def initCounts (operands : ℕ → List ℕ) (nodes : List ℕ) : List (ℕ × ℕ) :=
  nodes.map fun n => (n, (operands n).length)

/-- `pipeline_topological_ordering`: Kahn's algorithm over the nodes `bfs` finds from the root,
    started with the counters `initCounts` and the nodes without operands in the queue. -/
theorem pipelineOrder_eq (operands : ℕ → List ℕ) (fuel root : ℕ) :
    pipelineOrder operands fuel root =
      kahn operands (bfsOrder operands fuel [root] [root] []) (fuel * fuel + fuel + 1)
        (((initCounts operands (bfsOrder operands fuel [root] [root] [])).filter
          (·.2 == 0)).map (·.1))
        (initCounts operands (bfsOrder operands fuel [root] [root] [])) [] := rfl

/-- The state `topological_ordering` starts from: the queue holds the nodes without operands. -/
theorem KInv.init (hN : nodes.Nodup) :
    KInv operands nodes (((initCounts operands nodes).filter (·.2 == 0)).map (·.1))
      (initCounts operands nodes) [] := by
  unfold initCounts
  have hkeys : ((nodes.map fun n => (n, (operands n).length)).map (·.1)).Nodup := by
    rw [List.map_map]; exact (congrArg List.Nodup (List.map_id'' (fun _ => rfl) nodes)).mpr hN
  have hcnt : ∀ n ∈ nodes,
      cnt (nodes.map fun n => (n, (operands n).length)) n = (operands n).length :=
    fun n hn => congrArg (·.getD 0) <|
      (alookup_eq_some_iff _ hkeys n _).mpr (List.mem_map.mpr ⟨n, hn, rfl⟩)
  rw [show ((nodes.map fun n => (n, (operands n).length)).filter (·.2 == 0)).map (·.1) =
      nodes.filter fun n => (operands n).length == 0 by
    rw [List.filter_map, List.map_map]; exact List.map_id _]
  refine ⟨hN.filter _, fun n => ?_, fun n hn => ?_, fun l1 x l2 h => by cases l1 <;> cases h⟩
  · rw [List.nil_append, List.mem_filter, beq_iff_eq]
    exact and_congr_right fun hn => by rw [hcnt n hn]
  · rw [hcnt n hn]; exact (List.countP_eq_length.mpr fun _ _ => rfl).symm

/-- Serving `child` decrements the counter of each consumer once per operand slot equal to `child`
    (`kfold_cnt`, `outgoings_count`), and `kfold_ready` returns, once each, exactly the consumers
    whose counter thereby reaches 0. -/
theorem KInv.step (hN : nodes.Nodup) {child : ℕ}
    (h : KInv operands nodes (child :: queue) counts out) :
    KInv operands nodes (queue ++ (serve operands nodes counts child).2)
      (serve operands nodes counts child).1 (out ++ [child]) := by
  unfold serve
  obtain ⟨r, hr, hrnd, hrmem⟩ := kfold_ready (outgoings operands nodes child) counts []
  have hcnt := kfold_cnt (outgoings operands nodes child) counts []
  rw [List.nil_append] at hr
  rw [hr]
  have hassoc : out ++ [child] ++ (queue ++ r) = (out ++ child :: queue) ++ r := by
    rw [List.append_assoc, List.append_assoc]; rfl
  have hog := outgoings_count (operands := operands) hN child
  obtain ⟨hchild, hchild0⟩ := (h.mem_iff child).mp (List.mem_append_right _ List.mem_cons_self)
  have hchild_out : child ∉ out := fun hc =>
    (List.nodup_append.mp h.nodup).2.2 child hc child List.mem_cons_self rfl
  refine ⟨?_, fun n => ?_, fun n hn => ?_, ?_⟩
  · -- the ready nodes `r` had a non-zero counter, the members of `out ++ queue` have 0
    rw [hassoc]
    exact List.Nodup.append h.nodup hrnd fun x hx hx' =>
      ((hrmem x).mp hx').1 ((h.mem_iff x).mp hx).2
  · -- `n` is in the new `out ++ queue` iff it was there (counter already 0) or it became
    -- ready (old counter ≠ 0 and ≤ the number of operand slots of `n` equal to `child`); the new
    -- counter is the old one minus that number
    rw [hassoc, List.mem_append, h.mem_iff, hrmem, hcnt, hog, Nat.sub_eq_zero_iff_le]
    by_cases hn : n ∈ nodes
    · rw [if_pos hn]
      constructor
      · -- in both cases the old counter is at most the number of slots
        rintro (⟨-, h0⟩ | ⟨-, hle⟩)
        · exact ⟨hn, h0 ▸ Nat.zero_le _⟩
        · exact ⟨hn, hle⟩
      · rintro ⟨-, hle⟩
        by_cases h0 : cnt counts n = 0
        · exact Or.inl ⟨hn, h0⟩
        · exact Or.inr ⟨h0, hle⟩
    · -- `n ∉ nodes` has no slot counted: both sides are false
      rw [if_neg hn]
      constructor
      · rintro (⟨hn', -⟩ | ⟨h0, hle⟩)
        · exact absurd hn' hn
        · exact absurd (Nat.le_zero.mp hle) h0
      · exact fun h => absurd h.1 hn
  · -- old counter − slots equal to `child` = slots not served by `out ++ [child]`
    rw [hcnt, hog, if_pos hn, h.cnt_eq n hn, ← countP_snoc_out out _ child hchild_out,
      Nat.add_sub_cancel]
  · -- `child` had counter 0, so all its operands are in `out`
    exact topo_snoc.mpr ⟨h.topo, (h.operands_mem hchild).mp hchild0⟩

/-- With an empty queue every node has been output (on a DAG: by induction along `o < n` all
    operands of `n` have, so its counter is 0). -/
theorem KInv.complete (h : KInv operands nodes [] counts out)
    (hcl : ∀ n ∈ nodes, ∀ o ∈ operands n, o ∈ nodes)
    (hac : ∀ n ∈ nodes, ∀ o ∈ operands n, o < n) (n : ℕ) : n ∈ nodes → n ∈ out := by
  induction n using Nat.strongRecOn with
  | _ n ih =>
    exact fun hn => List.append_nil out ▸ (h.mem_iff n).mpr
      ⟨hn, (h.operands_mem hn).mpr fun o ho => ih o (hac n hn o ho) (hcl n hn o ho)⟩

/-- `out` is a duplicate-free list of members of `nodes`, so `worklist_spec` applies with
    `N := nodes.length`. -/
theorem kahn_spec (hN : nodes.Nodup) :
    ∀ (fuel : ℕ) (queue : List ℕ) (counts : List (ℕ × ℕ)) (out : List ℕ),
      KInv operands nodes queue counts out → nodes.length + 1 ≤ fuel + out.length →
      ∃ counts', KInv operands nodes [] counts' (kahn operands nodes fuel queue counts out) :=
  worklist_spec (kahn_succ_nil operands nodes) (kahn_succ_cons operands nodes)
    (fun h => h.nodup.of_append_left.length_le_of_subset
      fun x hx => ((h.mem_iff x).mp (List.mem_append_left _ hx)).1)
    (fun h => h.step hN)

end

/-- `pipeline_topological_ordering([root])` on a DAG whose nodes are `< L`, with the fuel the
    model passes: the root is listed, operands come before consumers, no duplicates, every listed
    circuit exists and the list is closed under operands. -/
theorem pipelineOrder_spec (operands : ℕ → List ℕ) (L : ℕ)
    (hL : ∀ n < L, ∀ o ∈ operands n, o < n) (root : ℕ) (hroot : root < L) :
    let l := pipelineOrder operands (L + 1) root
    root ∈ l ∧ Topo operands l ∧ l.Nodup ∧ (∀ x ∈ l, x < L) ∧ ∀ n ∈ l, ∀ o ∈ operands n, o ∈ l := by
  have hB0 : BInv operands L [root] [root] [] :=
    ⟨rfl, List.nodup_singleton _, fun x hx => List.mem_singleton.mp hx ▸ hroot, nofun⟩
  obtain ⟨hB, hroot'⟩ := bfsOrder_spec (fun n hn o ho => Nat.lt_trans (hL n hn o ho) hn) (L + 1)
    [root] [root] [] hB0 (Nat.le_refl _)
  rw [pipelineOrder_eq]
  generalize bfsOrder operands (L + 1) [root] [root] [] = nodes at hB hroot'
  -- Kahn's algorithm over `nodes`; its fuel suffices: `nodes.length ≤ L ≤ (L + 1)² + (L + 1)`
  have hfuel : nodes.length + 1 ≤ (L + 1) * (L + 1) + (L + 1) + 1 + ([] : List ℕ).length :=
    Nat.succ_le_succ (Nat.le_trans (length_le_of_nodup_lt hB.nodup hB.lt)
      (Nat.le_trans (Nat.le_succ L) (Nat.le_add_left _ _)))
  obtain ⟨counts, h⟩ := kahn_spec hB.nodup _ _ _ [] (KInv.init hB.nodup) hfuel
  generalize kahn operands nodes _ _ _ [] = res at h ⊢
  have hall : ∀ n, n ∈ nodes → n ∈ res :=
    h.complete hB.closed fun n hn o ho => hL n (hB.lt n hn) o ho
  have hsub : ∀ x ∈ res, x ∈ nodes :=
    fun x hx => ((h.mem_iff x).mp (List.mem_append_left _ hx)).1
  exact ⟨hall root (hroot' root List.mem_cons_self), h.topo, h.nodup.of_append_left,
    fun x hx => hB.lt x (hsub x hx), fun n hn o ho => hall o (hB.closed n (hsub n hn) o ho)⟩

end Cirkit
