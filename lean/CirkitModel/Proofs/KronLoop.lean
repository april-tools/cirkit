/-
  CirkitModel.Proofs.KronLoop — the literal `TorchKroneckerLayer.forward` loop (`kronLoop`)
  computes the product of the inputs read at the digits of the unit index (most significant
  digit first), i.e. what `Node.eval` of a `kron` layer denotes.
-/
import CirkitModel.Proofs.Bridge
import CirkitModel.Model.Torch
import CirkitModel.Proofs.Basics

namespace Cirkit
variable {R : Type} [CommSemiring R]

theorem prod_get_cons (k : ℕ) (v : ℕ → R) (L : List (ℕ → R)) (i : ℕ) :
    ∏ h : Fin (L.length + 1), (v :: L).get h (digit k (L.length + 1) h.val i)
      = v (i / k ^ L.length % k) * ∏ h : Fin L.length, L.get h (digit k L.length h.val i) := by
  rw [Fin.prod_univ_succ]
  simp only [Fin.val_succ, digit_drop_first, List.get_cons_succ']
  -- what is left is factor `0`: `digit k (n + 1) 0 i` unfolds to `i / k ^ n % k`
  rfl

/-- The loop started from `acc`: the remaining inputs consume the low digits of the index, the
    accumulator is read at what is left.  No bound on `i` is needed here. -/
theorem foldl_kronStep (k : ℕ) (L : List (ℕ → R)) (acc : ℕ → R) (i : ℕ) :
    L.foldl (kronStep (Ops.ofCommSemiring R) k) acc i
      = acc (i / k ^ L.length) * ∏ h : Fin L.length, L.get h (digit k L.length h.val i) := by
  induction L generalizing acc with
  | nil => simp only [List.foldl_nil, List.length_nil, pow_zero, Nat.div_one, Finset.univ_eq_empty,
      Finset.prod_empty, mul_one]
  | cons v L ih =>
    calc (v :: L).foldl (kronStep (Ops.ofCommSemiring R) k) acc i
        = kronStep (Ops.ofCommSemiring R) k acc v (i / k ^ L.length)
            * ∏ h : Fin L.length, L.get h (digit k L.length h.val i) := by
          rw [List.foldl_cons, ih]
      -- the step reads `acc` at `i / k ^ |L| / k` and `v` at the digit `i / k ^ |L| % k`
      _ = acc (i / k ^ (L.length + 1))
            * (v (i / k ^ L.length % k)
                * ∏ h : Fin L.length, L.get h (digit k L.length h.val i)) := by
          rw [kronStep, ofCS_mul, Nat.div_div_eq_div_mul, ← pow_succ, mul_assoc]
      _ = _ := congrArg _ (prod_get_cons k v L i).symm

theorem kronLoop_eq (k : ℕ) (vs : List (ℕ → R)) (i : ℕ)
    (hi : i < k ^ vs.length) :
    kronLoop (Ops.ofCommSemiring R) k vs i
      = ∏ h : Fin vs.length, (vs.get h) (digit k vs.length h.val i) := by
  cases vs with
  | nil => rfl
  | cons v L =>
    -- the leading digit is all that is left of `i`: `i / k ^ |L| < k`
    have h0 : i / k ^ L.length % k = i / k ^ L.length :=
      Nat.mod_eq_of_lt (Nat.div_lt_of_lt_mul (n := k ^ L.length) (pow_succ k _ ▸ hi))
    rw [kronLoop, foldl_kronStep, ← h0]
    exact (prod_get_cons k v L i).symm

end Cirkit
