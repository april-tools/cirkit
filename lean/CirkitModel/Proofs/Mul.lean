/-
  CirkitModel.Proofs.Mul — lemmas behind C04 (`multiply` is the pointwise product).

  `Node.MulRel` is the relation computed by `Node.mul` with the bookkeeping removed (`allOk`,
  `atRank`, the scope tests); `mul_rel` shows that every successful run of `Node.mul` is a
  derivation of `MulRel`, and the three properties (units, well-formedness, pointwise product) are
  inductions on that derivation.
-/
import Mathlib.Data.Prod.Lex
import Mathlib.Data.Fintype.Card
import Mathlib.Data.Fintype.EquivFin
import CirkitModel.Model.Mul
import CirkitModel.Proofs.Bridge
import CirkitModel.Proofs.Index
import CirkitModel.Proofs.Basics
import CirkitModel.Proofs.Scope

open Finset

namespace Cirkit

theorem mapM_id_eq_ok {E α : Type} {l : List (Except E α)} {cs : List α} :
    l.mapM id = .ok cs ↔ l = cs.map .ok := by
  constructor
  · intro h
    induction l generalizing cs with
    | nil => cases h; rfl
    | cons a l ih =>
      rw [List.mapM_cons] at h
      obtain ⟨b, ⟨⟩, h⟩ := bind_eq_ok h
      obtain ⟨bs, hl, ⟨⟩⟩ := bind_eq_ok (x := l.mapM id) h
      rw [ih hl]; rfl
  · rintro rfl
    rw [List.mapM_map]
    exact (List.mapM_pure (f := id)).trans (congrArg _ cs.map_id)

theorem length_flatMap_map {α β γ : Type} (l1 : List α) (l2 : List β) (f : α → β → γ) :
    (l1.flatMap fun a => l2.map (f a)).length = l1.length * l2.length := by
  induction l1 with
  | nil => exact (Nat.zero_mul _).symm
  | cons a l ih =>
    rw [List.flatMap_cons, List.length_append, ih, List.length_map, List.length_cons,
      Nat.succ_mul, Nat.add_comm]

theorem getElem?_flatMap_map {α β γ : Type} (l1 : List α) (l2 : List β) (f : α → β → γ)
    (a b : ℕ) (ha : a < l1.length) (hb : b < l2.length) :
    (l1.flatMap fun a => l2.map (f a))[a * l2.length + b]? = some (f l1[a] l2[b]) := by
  induction l1 generalizing a with
  | nil => cases ha
  | cons a0 l ih =>
    rw [List.flatMap_cons]
    cases a with
    | zero =>
      rw [Nat.zero_mul, Nat.zero_add, List.getElem?_append_left (by rwa [List.length_map]),
        List.getElem?_map, List.getElem?_eq_getElem hb]
      rfl
    | succ a =>
      rw [Nat.succ_mul, Nat.add_right_comm,
        List.getElem?_append_right (by rw [List.length_map]; exact Nat.le_add_left _ _),
        List.length_map, Nat.add_sub_cancel, ih a (Nat.lt_of_succ_lt_succ ha)]
      rfl

/-- the key by which the inputs of a Hadamard layer are sorted, as an element of a linear order:
    by scope, ties by position -/
def rkey {ar : ℕ} (key : Fin ar → Scope) (h : Fin ar) : List ℕ ×ₗ ℕ := toLex (key h, h.val)

/-- The number with digits `d 0 … d (n-1)` (most significant first) in base `K`, as a Horner fold;
    `kronPermIdx` is one (`kronPermIdx_add`).  `Tpl.flatIdx` (Proofs/Templates) is the same number
    for a tuple `Fin n → Fin k`, written as a sum. -/
def mixFold (K : ℕ) (d : ℕ → ℕ) (n : ℕ) : ℕ :=
  (List.range n).foldl (fun acc h => acc * K + d h) 0

theorem mixFold_succ (K : ℕ) (d : ℕ → ℕ) (n : ℕ) :
    mixFold K d (n + 1) = mixFold K d n * K + d n := by
  unfold mixFold
  rw [List.range_succ, List.foldl_append]
  rfl

theorem mixFold_lt (K : ℕ) (d : ℕ → ℕ) (n : ℕ) (hd : ∀ h, h < n → d h < K) :
    mixFold K d n < K ^ n := by
  induction n with
  | zero => exact Nat.one_pos
  | succ n ih =>
    rw [mixFold_succ, Nat.pow_succ]
    exact pair_lt (ih fun h hh => hd h (Nat.lt_succ_of_lt hh)) (hd n n.lt_succ_self)

theorem mixFold_digit (K : ℕ) (d : ℕ → ℕ) (n : ℕ) (hd : ∀ h, h < n → d h < K) (g : ℕ)
    (hg : g < n) : digit K n g (mixFold K d n) = d g := by
  induction n with
  | zero => cases hg
  | succ n ih =>
    rw [mixFold_succ]
    rcases Nat.lt_succ_iff_lt_or_eq.1 hg with hlt | rfl
    · rw [digit_drop_last K n g _ hlt, div_of_lt_add (hd n n.lt_succ_self)]
      exact ih (fun h hh => hd h (Nat.lt_succ_of_lt hh)) hlt
    · rw [digit_last, Nat.mul_add_mod_of_lt (hd g g.lt_succ_self)]

namespace Node
variable {R V : Type}

theorem allOk_ok {E α : Type} {n : ℕ} {f : Fin n → Except E α} {cs : List α} (dflt : α)
    (h : allOk f = .ok cs) (g : Fin n) : f g = .ok (cs.getD g.val dflt) := by
  have e : (List.ofFn f)[g.val]? = some (f g) := List.getElem?_ofFn.trans (dif_pos g.isLt)
  rw [mapM_id_eq_ok.1 h, List.getElem?_map] at e
  obtain ⟨c, hc, e⟩ := Option.map_eq_some_iff.1 e
  rw [List.getD_eq_getElem?_getD, hc, ← e]; rfl

theorem ok_allOk {E α : Type} {n : ℕ} (f : Fin n → Except E α) (c : Fin n → α)
    (h : ∀ g, f g = .ok (c g)) : allOk f = .ok (List.ofFn c) :=
  mapM_id_eq_ok.2 ((congrArg List.ofFn (funext h)).trans List.map_ofFn.symm)

/-! Sorting by the canonical scope order is a permutation: `rankOf key h` counts the inputs whose
key `(scope, position)` is smaller than that of `h` in the lexicographic order (`rankOf_eq_card`).
Distinct inputs have distinct keys, a smaller key has a smaller rank, so `rankOf key` is injective
`Fin ar → Fin ar`, hence bijective, and `atRank key`, which looks an input up by its rank, is its
inverse. -/

theorem rankOf_eq_card {ar : ℕ} (key : Fin ar → Scope) (h : Fin ar) :
    rankOf key h = #{g | rkey key g < rkey key h} := by
  -- both sides count a filter of `Fin ar`; the Boolean test of `rankOf`,
  -- `lexLt a b || (!lexLt b a && g < h)` with `a = key g`, `b = key h`, is `<` of `Prod.Lex`:
  refine congrArg List.length (List.filter_congr fun g _ => ?_)
  rw [Bool.eq_iff_iff]
  simp only [rkey, Prod.Lex.toLex_lt_toLex, Bool.or_eq_true, Bool.and_eq_true,
    Bool.not_eq_true', ← Bool.not_eq_true, Scope.lexLt_iff, not_lt, decide_eq_true_eq]
  -- left: `a < b ∨ (a ≤ b ∧ g < h)`, right: `a < b ∨ (a = b ∧ g < h)`;
  -- given `¬ a < b`, i.e. `b ≤ a`, `a ≤ b` is `a = b`
  exact or_congr_right' fun hn => and_congr_left' (LE.le.ge_iff_eq' (not_lt.1 hn))

theorem rankOf_lt {ar : ℕ} (key : Fin ar → Scope) (h : Fin ar) : rankOf key h < ar := by
  rw [rankOf_eq_card]
  exact (card_lt_card (filter_ssubset.2 ⟨h, mem_univ h, lt_irrefl (rkey key h)⟩)).trans_eq
    (card_fin ar)

theorem rankOf_lt_of_lt {ar : ℕ} {key : Fin ar → Scope} {g h : Fin ar}
    (hlt : rkey key g < rkey key h) : rankOf key g < rankOf key h := by
  rw [rankOf_eq_card, rankOf_eq_card]
  exact card_lt_card ⟨monotone_filter_right _ fun _ _ hx => hx.trans hlt,
    fun hs => lt_irrefl _ (mem_filter.1 (hs (mem_filter.2 ⟨mem_univ g, hlt⟩))).2⟩

theorem rankOf_inj {ar : ℕ} (key : Fin ar → Scope) : Function.Injective (rankOf key) := by
  intro g h e
  by_contra hne
  -- the position is part of the key
  have hk : rkey key g ≠ rkey key h := fun e => hne (Fin.ext (congrArg (fun z => (ofLex z).2) e))
  rcases lt_or_gt_of_ne hk with hlt | hlt
  · exact (rankOf_lt_of_lt hlt).ne e
  · exact (rankOf_lt_of_lt hlt).ne' e

theorem atRank_rankOf {ar : ℕ} (key : Fin ar → Scope) (h : Fin ar) :
    atRank key (rankOf key h) = some h := by
  unfold atRank
  cases hf : (List.finRange ar).find? fun g => rankOf key g == rankOf key h with
  | none => exact absurd (beq_self_eq_true _) (List.find?_eq_none.1 hf h (List.mem_finRange h))
  | some g =>
    have := List.find?_some hf
    exact congrArg some (rankOf_inj key (beq_iff_eq.1 this))

theorem atRank_bij {ar : ℕ} (key : Fin ar → Scope) :
    ∃ τ : Fin ar → Fin ar,
      Function.Bijective τ ∧ ∀ p : Fin ar, atRank key p.val = some (τ p) := by
  let e := Equiv.ofBijective (fun h => (⟨rankOf key h, rankOf_lt key h⟩ : Fin ar))
    (Finite.injective_iff_bijective.1 fun g h e => rankOf_inj key (congrArg Fin.val e))
  refine ⟨e.symm, e.symm.bijective, fun p => ?_⟩
  have := atRank_rankOf key (e.symm p)
  rwa [show rankOf key (e.symm p) = p.val from congrArg Fin.val (e.apply_symm_apply p)] at this

theorem kronPermIdx_add {k2 ar j : ℕ} (k1 i : ℕ) (hj : j < k2 ^ ar) :
    kronPermIdx k1 k2 ar (i * k2 ^ ar + j)
      = mixFold (k1 * k2) (fun h => digit k1 ar h i * k2 + digit k2 ar h j) ar := by
  rw [kronPermIdx, div_of_lt_add hj, Nat.mul_add_mod_of_lt hj, mixFold]

theorem kronPermIdx_lt (k1 k2 ar i j : ℕ) (hi : i < k1 ^ ar) (hj : j < k2 ^ ar) :
    kronPermIdx k1 k2 ar (i * k2 ^ ar + j) < (k1 * k2) ^ ar := by
  rw [kronPermIdx_add k1 i hj]
  exact mixFold_lt _ _ _ fun _ hh =>
    pair_lt (digit_lt_of_lt_pow ⟨_, hh⟩ hi) (digit_lt_of_lt_pow ⟨_, hh⟩ hj)

theorem kronPermIdx_digit (k1 k2 ar i j : ℕ) (hi : i < k1 ^ ar) (hj : j < k2 ^ ar) (g : ℕ)
    (hg : g < ar) :
    digit (k1 * k2) ar g (kronPermIdx k1 k2 ar (i * k2 ^ ar + j))
      = digit k1 ar g i * k2 + digit k2 ar g j := by
  rw [kronPermIdx_add k1 i hj]
  exact mixFold_digit _ _ _
    (fun _ hh => pair_lt (digit_lt_of_lt_pow ⟨_, hh⟩ hi) (digit_lt_of_lt_pow ⟨_, hh⟩ hj)) g hg

/-- The relation computed by `Node.mul`, with the bookkeeping (`allOk`, `atRank`, scope tests)
    removed. -/
inductive MulRel (o : Ops R) : Node R V → Node R V → Node R V → Prop
  | disj (n1 n2 : Node R V) (hu : n1.units = n2.units) :
      MulRel o n1 n2 (.kron 2 n1.units (fun h => if h.val = 0 then n1 else n2))
  | leaf (v k1 k2 : ℕ) (f1 f2 : ℕ → V → R) :
      MulRel o (.leaf v k1 f1) (.leaf v k2 f2)
        (.leaf v (k1 * k2) (fun i a => o.mul (f1 (i / k2) a) (f2 (i % k2) a)))
  | sum (ar1 kin1 ko1 : ℕ) (W1 : ℕ → ℕ → R) (ch1 : Fin ar1 → Node R V)
      (ar2 kin2 ko2 : ℕ) (W2 : ℕ → ℕ → R) (ch2 : Fin ar2 → Node R V)
      (cs : Fin (ar1 * ar2) → Node R V)
      (hcs : ∀ h : Fin (ar1 * ar2),
        MulRel o (ch1 ⟨h.val / ar2, div_lt_of_lt_mul' h.isLt⟩)
          (ch2 ⟨h.val % ar2, mod_lt_of_lt_mul' h.isLt⟩) (cs h)) :
      MulRel o (.sum ar1 kin1 ko1 W1 ch1) (.sum ar2 kin2 ko2 W2 ch2)
        (.sum (ar1 * ar2) (kin1 * kin2) (ko1 * ko2)
          (fun i c =>
            o.mul (W1 (i / ko2) ((c / (kin1 * kin2) / ar2) * kin1 + c % (kin1 * kin2) / kin2))
              (W2 (i % ko2) ((c / (kin1 * kin2) % ar2) * kin2 + c % (kin1 * kin2) % kin2)))
          cs)
  | had (ar k1 k2 : ℕ) (ch1 ch2 : Fin ar → Node R V) (τ1 τ2 : Fin ar → Fin ar)
      (hτ1 : Function.Bijective τ1) (hτ2 : Function.Bijective τ2)
      (cs : Fin ar → Node R V) (hcs : ∀ p, MulRel o (ch1 (τ1 p)) (ch2 (τ2 p)) (cs p)) :
      MulRel o (.had ar k1 ch1) (.had ar k2 ch2) (.had ar (k1 * k2) cs)
  | kron (ar k1 k2 : ℕ) (ch1 ch2 : Fin ar → Node R V)
      (cs : Fin ar → Node R V) (hcs : ∀ g, MulRel o (ch1 g) (ch2 g) (cs g)) :
      MulRel o (.kron ar k1 ch1) (.kron ar k2 ch2)
        (.sum 1 ((k1 * k2) ^ ar) ((k1 * k2) ^ ar)
          (fun i c => if c = kronPermIdx k1 k2 ar i then o.one else o.zero)
          (fun _ => .kron ar (k1 * k2) cs))

theorem mulDisjoint_rel (o : Ops R) {n1 n2 p : Node R V}
    (h : mulDisjoint n1 n2 = some (.ok p)) : MulRel o n1 n2 p := by
  by_cases hd : Scope.disjoint n1.scopeL n2.scopeL = true
  · by_cases hu : n1.units = n2.units
    · rw [mulDisjoint, if_pos hd, if_pos hu] at h
      cases h
      exact .disj n1 n2 hu
    · rw [mulDisjoint, if_pos hd, if_neg hu] at h
      cases h
  · rw [mulDisjoint, if_neg hd] at h
    cases h

theorem mul_of_disjoint (o : Ops R) {n1 n2 : Node R V} {r : Except MulErr (Node R V)}
    (h : mulDisjoint n1 n2 = some r) : Node.mul o n1 n2 = r := by
  rw [Node.mul.eq_def]
  cases n1 <;> simp only [h]

theorem mul_rel {o : Ops R} {n1 n2 p : Node R V} (h : Node.mul o n1 n2 = .ok p) :
    MulRel o n1 n2 p := by
  -- Functional induction: one case per branch of `Node.mul`, numbered in the order of the
  -- definition.  In each case `h` has become "the value of that branch `= .ok p`", and `ih` turns
  -- a successful product of a pair of inputs into its derivation.  The branches:
  -- leaf first: 1 disjoint, 2 leaf × leaf same variable, 3 other variable, 4 leaf × other;
  -- const first: 5 disjoint, 6 otherwise;  sum first: 7 disjoint, 8 sum × sum, 9 sum × other;
  -- had first: 10 disjoint, 11 had × had of equal arity, 12 of other arity, 13 had × other;
  -- kron first: 14 disjoint, 15 kron × kron of equal arity and scopes, 16 other scopes,
  -- 17 other arity, 18 kron × other.
  fun_induction Node.mul o n1 n2 generalizing p
  -- 1, 5, 7, 10, 14: the disjoint-scope test in front of each constructor has answered
  case case1 | case5 | case7 | case10 | case14 =>
    rename_i hmd  -- `hmd : mulDisjoint n1 n2 = some r`, and `h : r = .ok p`
    subst h
    exact mulDisjoint_rel o hmd
  -- 2: leaf × leaf over the same variable, `h : .ok (leaf …) = .ok p`
  case case2 => cases h; exact .leaf ..
  -- 8: sum × sum,
  -- `h : (allOk (fun g => mul o (ch1 _) (ch2 _)) >>= fun cs => .ok (sum … cs)) = .ok p`
  case case8 dflt _ ih =>
    obtain ⟨cs, hcs, ⟨⟩⟩ := bind_eq_ok h  -- `hcs : allOk … = .ok cs`, and `p` is `sum … cs`
    exact .sum (hcs := fun g => ih g (allOk_ok dflt hcs g)) ..
  -- 11: had × had of equal arity.  Entry `g` of `allOk` is `mul o (ch1 h1) (ch2 h2)` for the
  -- inputs of rank `g`, `atRank key1 g = some h1` and `atRank key2 g = some h2`; sorting is a
  -- permutation (`atRank_bij`), so these are `τ1 g`, `τ2 g`.  The binders come in the order in
  -- which `fun_induction` introduces them: the data of the two layers and the `let`s of the branch.
  case case11 k1 ar k2 ch2 dflt key2 ch1 key1 _ ih =>
    obtain ⟨cs, hcs, ⟨⟩⟩ := bind_eq_ok h
    obtain ⟨τ1, hb1, ht1⟩ := atRank_bij key1
    obtain ⟨τ2, hb2, ht2⟩ := atRank_bij key2
    refine .had _ _ _ _ _ τ1 τ2 hb1 hb2 _ fun g => ih _ _ ?_
    have hg := allOk_ok dflt hcs g  -- entry `g`: the `match` on the two `atRank`s `= .ok (cs g)`
    rwa [ht1 g, ht2 g] at hg
  -- 15: kron × kron of equal arity listing the same scopes, inputs paired in the given order
  case case15 dflt _ _ _ ih =>
    obtain ⟨cs, hcs, ⟨⟩⟩ := bind_eq_ok h
    exact .kron (hcs := fun g => ih g (allOk_ok dflt hcs g)) ..
  -- 3, 4, 6, 9, 12, 13, 16, 17, 18 return an error
  all_goals cases h

theorem MulRel.units_eq {o : Ops R} {n1 n2 p : Node R V} (h : MulRel o n1 n2 p) :
    p.units = n1.units * n2.units := by
  -- by `induction` although no hypothesis is used: `cases` would first unify the three layers with
  -- the indices of each constructor, which is slow to check
  induction h with
  | disj n1 n2 hu => exact (Nat.pow_two _).trans (congrArg _ hu)
  | leaf => rfl
  | sum => rfl
  | had => rfl
  | kron ar k1 k2 => exact Nat.mul_pow k1 k2 ar

theorem MulRel.wf {o : Ops R} {n1 n2 p : Node R V} (h : MulRel o n1 n2 p)
    (h1 : n1.WF) (h2 : n2.WF) : p.WF := by
  induction h with
  | disj n1 n2 hu => exact wf_pair ⟨h1, rfl⟩ ⟨h2, hu.symm⟩
  | leaf => trivial
  | sum _ _ _ _ _ _ _ _ _ _ _ hcs ih | had _ _ _ _ _ _ _ _ _ _ hcs ih =>
    exact fun g =>
      ⟨ih g (h1 _).1 (h2 _).1, (hcs g).units_eq.trans (congrArg₂ _ (h1 _).2 (h2 _).2)⟩
  | kron _ _ _ _ _ _ hcs ih =>
    exact fun _ => ⟨fun g =>
      ⟨ih g (h1 _).1 (h2 _).1, (hcs g).units_eq.trans (congrArg₂ _ (h1 _).2 (h2 _).2)⟩, rfl⟩

section Correct
variable [CommSemiring R]

theorem eval_sum_indicator (x : ℕ → V) {k ko : ℕ} {σ : ℕ → ℕ} {n : Node R V} {i : ℕ}
    (hσ : σ i < k) :
    (Node.sum 1 k ko (fun i c => if c = σ i then (Ops.ofCommSemiring R).one
        else (Ops.ofCommSemiring R).zero) fun _ => n).eval (Ops.ofCommSemiring R) x i
      = n.eval (Ops.ofCommSemiring R) x (σ i) := by
  simp only [eval_dense, ofCS_one, ofCS_zero, ite_mul, one_mul, zero_mul, Finset.sum_ite_eq',
    mem_range, if_pos hσ]

theorem MulRel.correct {n1 n2 p : Node R V} (h : MulRel (Ops.ofCommSemiring R) n1 n2 p)
    (h1 : n1.WF) (h2 : n2.WF) (x : ℕ → V) (i j : ℕ) (hi : i < n1.units) (hj : j < n2.units) :
    p.eval (Ops.ofCommSemiring R) x (i * n2.units + j)
      = n1.eval (Ops.ofCommSemiring R) x i * n2.eval (Ops.ofCommSemiring R) x j := by
  -- With the unit counts as variables, the hypothesis for an input applies at the count that `WF`
  -- declares for it, without rewriting.
  suffices ∀ k1 k2, n1.units = k1 → n2.units = k2 → ∀ i j, i < k1 → j < k2 →
      p.eval (Ops.ofCommSemiring R) x (i * k2 + j)
        = n1.eval (Ops.ofCommSemiring R) x i * n2.eval (Ops.ofCommSemiring R) x j from
    this _ _ rfl rfl i j hi hj
  clear hi hj i j
  induction h with
  | disj n1 n2 hu =>
    rintro _ _ rfl rfl i j hi hj
    rw [← hu] at hj ⊢
    rw [eval_kron_pair, digit_two_zero hi hj, digit_two_one hj]
  | leaf v k1 k2 f1 f2 =>
    rintro _ _ (rfl : k1 = _) (rfl : k2 = _) i j hi hj
    simp only [eval, ofCS_mul]
    rw [div_of_lt_add hj, Nat.mul_add_mod_of_lt hj]
  | sum ar1 kin1 ko1 W1 ch1 ar2 kin2 ko2 W2 ch2 cs hcs ih =>
    -- the sum × sum rule (`sum_sum_rule_fin`) on the flattened pairs `h = (h1, h2)` of inputs and
    -- `c = (c1, c2)` of their units, term by term
    rintro _ _ (rfl : ko1 = _) (rfl : ko2 = _) i j hi hj
    rw [eval_sum, eval_sum, eval_sum, ← sum_sum_rule_fin]
    refine sum_congr rfl fun h _ => sum_congr rfl fun c hc => ?_
    have hc := mem_range.1 hc
    -- the input of the product layer at `h` is `cs h`; the induction hypothesis for it, at the
    -- units `(c / kin2, c % kin2)`:
    have := ih h (h1 _).1 (h2 _).1 _ _ (h1 _).2 (h2 _).2 (c / kin2) (c % kin2)
      (div_lt_of_lt_mul' hc) (mod_lt_of_lt_mul' hc)
    rw [Nat.div_add_mod' c kin2] at this
    simp only [ofCS_mul, div_of_lt_add hj, Nat.mul_add_mod_of_lt hj, div_of_lt_add hc,
      Nat.mul_add_mod_of_lt hc, this]
    -- `(h : Fin _).divNat` is `⟨h / ar2, _⟩` by unfolding
    rfl
  | had ar k1 k2 ch1 ch2 τ1 τ2 hτ1 hτ2 cs hcs ih =>
    rintro _ _ (rfl : k1 = _) (rfl : k2 = _) i j hi hj
    rw [eval_had, eval_had, eval_had,
      ← hτ1.prod_comp fun h => (ch1 h).eval (Ops.ofCommSemiring R) x i,
      ← hτ2.prod_comp fun h => (ch2 h).eval (Ops.ofCommSemiring R) x j,
      ← Finset.prod_mul_distrib]
    exact Finset.prod_congr rfl fun p _ => ih p (h1 _).1 (h2 _).1 _ _ (h1 _).2 (h2 _).2 i j hi hj
  | kron ar k1 k2 ch1 ch2 cs hcs ih =>
    rintro _ _ (rfl : k1 ^ ar = _) (rfl : k2 ^ ar = _) i j hi hj
    rw [eval_sum_indicator x (kronPermIdx_lt k1 k2 ar i j hi hj), eval_kron,
      eval_kron, eval_kron, ← Finset.prod_mul_distrib]
    refine Finset.prod_congr rfl fun g _ => ?_
    rw [kronPermIdx_digit k1 k2 ar i j hi hj g.val g.isLt]
    exact ih g (h1 _).1 (h2 _).1 _ _ (h1 _).2 (h2 _).2 _ _
      (digit_lt_of_lt_pow g hi) (digit_lt_of_lt_pow g hj)

end Correct

theorem mulDisjoint_mismatch (n1 n2 : Node R V)
    (hd : Scope.disjoint n1.scopeL n2.scopeL = true) (hu : n1.units ≠ n2.units) :
    mulDisjoint n1 n2 = some (.error .unitMismatch) := by
  rw [mulDisjoint, if_pos hd, if_neg hu]

end Node

section Circ
variable {R V : Type}

theorem Circ.mul_inv (o : Ops R) (c1 c2 p : Circ R V) (h : Circ.mul o c1 c2 = .ok p) :
    (c1.outputs.flatMap fun n1 => c2.outputs.map fun n2 => Node.mul o n1 n2)
      = p.outputs.map .ok := by
  obtain ⟨outs, ho, ⟨⟩⟩ := bind_eq_ok h
  exact mapM_id_eq_ok.1 ho

theorem Circ.mul_length (o : Ops R) (c1 c2 p : Circ R V) (h : Circ.mul o c1 c2 = .ok p) :
    p.outputs.length = c1.outputs.length * c2.outputs.length := by
  rw [← length_flatMap_map, Circ.mul_inv o c1 c2 p h, List.length_map]

theorem Circ.mul_getElem? (o : Ops R) (c1 c2 p : Circ R V) (h : Circ.mul o c1 c2 = .ok p)
    (a b : ℕ) (ha : a < c1.outputs.length) (hb : b < c2.outputs.length) :
    ∃ q, p.outputs[a * c2.outputs.length + b]? = some q
      ∧ Node.mul o c1.outputs[a] c2.outputs[b] = .ok q := by
  have e := getElem?_flatMap_map _ _ (Node.mul o) a b ha hb
  rw [Circ.mul_inv o c1 c2 p h, List.getElem?_map] at e
  obtain ⟨q, hq, e⟩ := Option.map_eq_some_iff.1 e
  exact ⟨q, hq, e.symm⟩

end Circ
end Cirkit
