/-
  CirkitModel.Proofs.Scope — scopes as strictly increasing lists (`CirkitModel.Model.Scope`): what
  `insert` / `ofList` / `union` / `unionAll` contain, and that they keep the list strictly
  increasing.  `lexLe` is the lexicographic order of `List ℕ`, so `sortScopes` is an insertion sort
  by a linear order.
-/
import Mathlib.Data.List.Basic
import Mathlib.Data.List.Sort
import Mathlib.Data.List.Lex
import CirkitModel.Model.Scope

namespace Cirkit.Scope

theorem mem_insert (v x : ℕ) (l : Scope) : x ∈ Scope.insert v l ↔ (x = v ∨ x ∈ l) := by
  induction l with
  | nil => exact List.mem_singleton.trans (or_iff_left List.not_mem_nil).symm
  | cons a as ih =>
    rw [Scope.insert]
    split
    · exact List.mem_cons
    · split
      · next h => rw [h, List.mem_cons, or_self_left]
      · rw [List.mem_cons, ih, List.mem_cons, or_left_comm]

theorem insert_pairwise (v : ℕ) (l : Scope) (hl : l.Pairwise (· < ·)) :
    (Scope.insert v l).Pairwise (· < ·) := by
  induction l with
  | nil => exact List.pairwise_singleton _ _
  | cons a as ih =>
    rw [Scope.insert]
    split
    · next h1 =>
      exact List.pairwise_cons.mpr ⟨fun x hx => by
        rcases List.mem_cons.mp hx with rfl | hx
        exacts [h1, Nat.lt_trans h1 ((List.pairwise_cons.mp hl).1 x hx)], hl⟩
    · split
      · exact hl
      · next h1 h2 =>
        rw [List.pairwise_cons] at hl
        refine List.pairwise_cons.mpr ⟨fun x hx => ?_, ih hl.2⟩
        rcases (mem_insert v x as).mp hx with rfl | hx
        exacts [Nat.lt_of_le_of_ne (Nat.le_of_not_lt h1) (Ne.symm h2), hl.1 x hx]

theorem ofList_pairwise (l : List ℕ) : (Scope.ofList l).Pairwise (· < ·) := by
  induction l with
  | nil => exact List.Pairwise.nil
  | cons a as ih => exact insert_pairwise a _ ih

theorem mem_ofList (l : List ℕ) (x : ℕ) : x ∈ Scope.ofList l ↔ x ∈ l := by
  induction l with
  | nil => exact Iff.rfl
  | cons a as ih => exact (mem_insert ..).trans (by rw [List.mem_cons]; exact or_congr_right ih)

theorem union_cons (v : ℕ) (a b : Scope) : union (v :: a) b = insert v (union a b) := rfl

theorem mem_union (u : ℕ) (a b : Scope) : u ∈ union a b ↔ u ∈ a ∨ u ∈ b := by
  induction a with
  | nil => simp [union]
  | cons v a ih => rw [union_cons, mem_insert, ih, List.mem_cons, or_assoc]

theorem union_pairwise (a b : Scope) (hb : b.Pairwise (· < ·)) : (union a b).Pairwise (· < ·) := by
  induction a with
  | nil => exact hb
  | cons v a ih => exact insert_pairwise v _ ih

theorem unionAll_cons (s : Scope) (ss : List Scope) :
    unionAll (s :: ss) = union s (unionAll ss) := rfl

theorem unionAll_pairwise (ss : List Scope) : (unionAll ss).Pairwise (· < ·) := by
  induction ss with
  | nil => exact List.Pairwise.nil
  | cons s ss ih => exact union_pairwise s _ ih

theorem mem_unionAll (u : ℕ) (ss : List Scope) : u ∈ unionAll ss ↔ ∃ s ∈ ss, u ∈ s := by
  induction ss with
  | nil => exact ⟨nofun, nofun⟩
  | cons s ss ih => rw [unionAll_cons, mem_union, ih, List.exists_mem_cons_iff]

theorem disjoint_iff (a b : Scope) : Scope.disjoint a b = true ↔ ∀ v ∈ a, v ∉ b := by
  simp only [Scope.disjoint, List.all_eq_true, Bool.not_eq_true', List.contains_eq_mem,
    decide_eq_false_iff_not]

theorem unionAll_nodup (ss : List Scope) : (unionAll ss).Nodup :=
  (unionAll_pairwise ss).imp Nat.ne_of_lt

theorem unionAll_subset_flatten (ss : List Scope) : unionAll ss ⊆ ss.flatten := fun v hv =>
  let ⟨s, hs, hvs⟩ := (mem_unionAll v ss).1 hv
  List.mem_flatten.2 ⟨s, hs, hvs⟩

/-- Pigeonhole: `unionAll ss` is a duplicate-free list inside `ss.flatten`; being as long, it is a
    permutation of it, so `ss.flatten` has no duplicates.  No hypothesis on the parts: `unionAll`
    is strictly increasing whatever they are. -/
theorem pairwise_disjoint_of_length_unionAll (ss : List Scope)
    (h : (unionAll ss).length = (ss.map List.length).sum) :
    ss.Pairwise (fun a b => Scope.disjoint a b = true) := by
  have hperm : (unionAll ss).Perm ss.flatten :=
    (List.subperm_of_subset (unionAll_nodup ss) (unionAll_subset_flatten ss)).perm_of_length_le
      (by rw [List.length_flatten, h])
  exact (List.nodup_flatten.1 (hperm.nodup_iff.1 (unionAll_nodup ss))).2.imp
    fun hd => (disjoint_iff _ _).2 fun _ hv hvb => hd hv hvb

theorem subset_iff (a b : Scope) : Scope.subset a b = true ↔ ∀ v ∈ a, v ∈ b := by
  simp only [Scope.subset, List.all_eq_true, List.contains_eq_mem, decide_eq_true_eq]

theorem lexLt_iff (a b : Scope) : lexLt a b = true ↔ a < b := by
  induction a generalizing b with
  | nil => cases b <;> simp [lexLt]
  | cons x xs ih =>
    cases b with
    | nil => simp [lexLt]
    | cons y ys =>
      rw [lexLt, List.cons_lt_cons_iff, ← ih]
      rcases Nat.lt_trichotomy x y with h | rfl | h
      · simp only [h, if_true, true_or]
      · simp only [Nat.lt_irrefl, if_false, false_or, true_and]
      · simp only [Nat.lt_asymm h, h, if_false, if_true, Nat.ne_of_gt h, false_and, or_self,
          Bool.false_eq_true]

theorem lexLe_iff (a b : Scope) : lexLe a b = true ↔ a ≤ b := by
  unfold lexLe
  rw [Bool.not_eq_true', ← Bool.not_eq_true, lexLt_iff, not_lt]

theorem ins_eq (s : Scope) (l : List Scope) :
    sortScopes.ins s l = List.orderedInsert (· ≤ ·) s l := by
  induction l with
  | nil => rfl
  | cons t ts ih =>
    simp only [sortScopes.ins, List.orderedInsert_cons, ih, lexLe_iff]

theorem sortScopes_eq (l : List Scope) : sortScopes l = List.insertionSort (· ≤ ·) l :=
  congrArg (fun f => l.foldr f []) (funext₂ ins_eq)

theorem sortScopes_perm_self (l : List Scope) : (sortScopes l).Perm l := by
  rw [sortScopes_eq]; exact List.perm_insertionSort _ l

theorem sortScopes_sorted (l : List Scope) : (sortScopes l).Pairwise (· ≤ ·) := by
  rw [sortScopes_eq]; exact List.pairwise_insertionSort _ l

theorem mem_sortScopes (l : List Scope) (s : Scope) : s ∈ sortScopes l ↔ s ∈ l :=
  (sortScopes_perm_self l).mem_iff

theorem sortScopes_eq_of_perm {l l' : List Scope} (h : l.Perm l') : sortScopes l = sortScopes l' :=
  List.Perm.eq_of_pairwise (fun _ _ _ _ => le_antisymm) (sortScopes_sorted l) (sortScopes_sorted l')
    (((sortScopes_perm_self l).trans h).trans (sortScopes_perm_self l').symm)

end Cirkit.Scope
