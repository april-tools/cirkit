/-
  CirkitModel.Proofs.Norm — lemmas about the parameter classes of C12 (`Node.Norm`, `Node.NonNeg`,
  `Node.StrictPos`) and the sampler relation `Node.Reach` of C15 (all four: `CirkitModel.Spec.Node`).
-/
import Mathlib.Algebra.BigOperators.Field
import Mathlib.Algebra.Order.BigOperators.Group.Finset
import Mathlib.Algebra.Order.BigOperators.GroupWithZero.Finset
import Mathlib.Algebra.Order.Ring.Defs
import CirkitModel.Model.Node
import CirkitModel.Proofs.Bridge
import CirkitModel.Proofs.Index
import CirkitModel.Proofs.Operators
import CirkitModel.Proofs.Basics

open Finset

namespace Cirkit

section Norm
variable {R V : Type} [CommSemiring R]

theorem Node.normalised_partition (n : Node R V) (S : ℕ → (V → R) → R) (hwf : n.WF)
    (hn : n.Norm S) (x : ℕ → V) (i : ℕ) (hi : i < n.units) :
    n.maskedEval (Ops.ofCommSemiring R) S (fun _ => true) x i = 1 := by
  induction n generalizing i with
  | leaf v k f => exact hn i hi
  | const k c => exact hn i hi
  | sum ar kin kout W ch ih =>
    -- every input unit is one, so unit `i` is the sum of row `i` of the weights
    rw [Node.maskedEval, sumFin_eq, ← hn.1 i hi]
    refine Finset.sum_congr rfl fun h _ => (sumN_eq kin _).trans ?_
    refine Finset.sum_congr rfl fun j hj => ?_
    rw [ih h (hwf h).1 (hn.2 h) j ((hwf h).2.symm ▸ Finset.mem_range.mp hj)]
    exact mul_one _
  | had ar k ch ih =>
    rw [Node.maskedEval, prodFin_eq]
    exact Finset.prod_eq_one fun h _ => ih h (hwf h).1 (hn h) i ((hwf h).2.symm ▸ hi)
  | kron ar k ch ih =>
    rw [Node.maskedEval, prodFin_eq]
    exact Finset.prod_eq_one fun h _ =>
      ih h (hwf h).1 (hn h) _ ((hwf h).2.symm ▸ digit_lt_of_lt_pow h hi)

theorem Node.normalised_marginal (n : Node R V) (S : ℕ → (V → R) → R) (hS : ∀ v, LinFun (S v))
    (zs : List ℕ) (hnd : zs.Nodup) (hz : ∀ z ∈ zs, Node.Mem z n)
    (hall : ∀ v, Node.Mem v n → v ∈ zs) (hs : n.Smooth) (hd : n.Decomp) (hwf : n.WF)
    (hn : n.Norm S) (x : ℕ → V) (i : ℕ) (hi : i < n.units) :
    Node.sumOver S zs (fun y' => n.eval (Ops.ofCommSemiring R) y' i) x = 1 := by
  rw [← Node.integ_correct n S hS zs hnd hz hs hd x i, ← Node.maskedEval_eq_integ,
    Node.maskedEval_mask_congr n S (fun v => decide (v ∈ zs)) (fun _ => true)
      (fun v hv => by simp only [hall v hv, decide_true])]
  exact Node.normalised_partition n S hwf hn x i hi

end Norm

section Order
variable {R V : Type} [CommSemiring R] [PartialOrder R]

theorem Node.eval_nonneg [IsOrderedRing R] (n : Node R V) (h : n.NonNeg) (x : ℕ → V) (i : ℕ) :
    0 ≤ n.eval (Ops.ofCommSemiring R) x i := by
  induction n generalizing i with
  | leaf v k f => exact h i (x v)
  | const k c => exact h i
  | sum ar kin kout W ch ih =>
    rw [Node.eval_sum]
    exact Finset.sum_nonneg fun h' _ => Finset.sum_nonneg fun j _ =>
      mul_nonneg (h.1 i _) (ih h' (h.2 h') j)
  | had ar k ch ih | kron ar k ch ih =>
    simp only [Node.eval_had, Node.eval_kron]
    exact Finset.prod_nonneg fun h' _ => ih h' (h h') _

theorem Node.sample_support [IsStrictOrderedRing R] (n : Node R V) (hnn : n.NonNeg) (i : ℕ)
    (x : ℕ → V) (hr : n.Reach i x) : 0 < n.eval (Ops.ofCommSemiring R) x i := by
  induction hr with
  | leaf hpos => exact hpos
  | const hpos => exact hpos
  | @sum ar kin kout W ch i x h j hj hW _ ih =>
    rw [Node.eval_sum]
    have hnnc : ∀ h' j', 0 ≤ W i (h'.val * kin + j') * (ch h').eval (Ops.ofCommSemiring R) x j' :=
      fun h' j' => mul_nonneg (hnn.1 i _) (Node.eval_nonneg (ch h') (hnn.2 h') x j')
    refine Finset.sum_pos' (fun h' _ => Finset.sum_nonneg fun j' _ => hnnc h' j')
      ⟨h, Finset.mem_univ _, ?_⟩
    exact Finset.sum_pos' (fun j' _ => hnnc h j')
      ⟨j, Finset.mem_range.mpr hj, mul_pos hW (ih (hnn.2 h))⟩
  | had _ ih | kron _ ih =>
    simp only [Node.eval_had, Node.eval_kron]
    exact Finset.prod_pos fun h' _ => ih h' (hnn h')

theorem Node.StrictPos.nonNeg {n : Node R V} (h : n.StrictPos) : n.NonNeg := by
  induction n with
  | leaf v k f => exact fun i a => (h i a).le
  | const k c => exact fun i => (h i).le
  | sum ar kin kout W ch ih => exact ⟨fun i c => (h.2.1 i c).le, fun h' => ih h' (h.2.2 h')⟩
  | had ar k ch ih | kron ar k ch ih => exact fun h' => ih h' (h h')

theorem Node.StrictPos.reach {n : Node R V} (h : n.StrictPos) (i : ℕ) (x : ℕ → V) :
    n.Reach i x := by
  induction n generalizing i with
  | leaf v k f => exact .leaf (h i _)
  | const k c => exact .const (h i)
  | sum ar kin kout W ch ih =>
    exact .sum ⟨0, h.1.1⟩ 0 h.1.2 (h.2.1 i _) (ih _ (h.2.2 _) 0)
  | had ar k ch ih => exact .had fun h' => ih h' (h h') _
  | kron ar k ch ih => exact .kron fun h' => ih h' (h h') _

theorem Node.eval_pos [IsStrictOrderedRing R] (n : Node R V) (h : n.StrictPos) (x : ℕ → V)
    (i : ℕ) : 0 < n.eval (Ops.ofCommSemiring R) x i :=
  Node.sample_support n h.nonNeg i x (h.reach i x)

end Order

theorem softmax_rowsum {F : Type} [Field F] (len : ℕ) (e : ℕ → F)
    (h : ∑ a ∈ range len, e a ≠ 0) :
    ∑ a ∈ range len, e a / (∑ b ∈ range len, e b) = 1 := by
  rw [← Finset.sum_div, div_self h]

theorem softmax_pos {F : Type} [Field F] [LinearOrder F] [IsStrictOrderedRing F] (len : ℕ)
    (e : ℕ → F) (h : ∀ a < len, 0 < e a) (a : ℕ) (ha : a < len) :
    0 < e a / (∑ b ∈ range len, e b) :=
  div_pos (h a ha) <| (h a ha).trans_le <|
    Finset.single_le_sum (fun b hb => (h b (Finset.mem_range.mp hb)).le) (Finset.mem_range.mpr ha)

theorem mixing_rowsum {R : Type} [CommSemiring R] (K H : ℕ) (v : ℕ → ℕ → R) (k : ℕ)
    (hk : k < K) :
    ∑ c ∈ range (K * H), (if c % K = k then v k (c / K) else 0) = ∑ h ∈ range H, v k h := by
  rw [Nat.mul_comm K H, sum_range_mul_divMod H K fun _ h j => if j = k then v k h else 0]
  exact sum_congr rfl fun h _ => by rw [sum_ite_eq' (range K) k, if_pos (mem_range.mpr hk)]

end Cirkit
