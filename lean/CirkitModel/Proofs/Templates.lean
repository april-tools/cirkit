/-
  CirkitModel.Proofs.Templates — the general facts behind C20: sums over paths (tensor train,
  HMM), the block-diagonal ones layer of the tensor train, and well-formedness of the builders of
  `CirkitModel.Model.Templates`.
-/
import Mathlib.Algebra.BigOperators.Ring.Finset
import Mathlib.Algebra.BigOperators.Fin
import CirkitModel.Model.Templates
import CirkitModel.Proofs.Bridge
import CirkitModel.Proofs.EvalV

open Finset

namespace Cirkit
variable {R V : Type}

theorem Node.evalV_single (o : Ops R) (x : ℕ → V) (n : Node R V) (h : n.WF ∧ n.units = 1) (d : R) :
    (n.evalV o x).size = 1 ∧ (n.evalV o x).getD 0 d = n.eval o x 0 :=
  ⟨(evalV_size o x n).trans h.2, evalV_getD h.1 (h.2 ▸ Nat.one_pos) d⟩

namespace Tpl

section
variable [CommSemiring R]

/-! A chain of sum-after-Hadamard layers multiplies a vector by one matrix per step; contracted with
  a final vector this is the sum over all state sequences of the product of the entries met
  (`pathSum_eq_sum`).  The recursion peels the first step, as the HMM does; the tensor train peels
  the last (`pathSum_snoc`). -/

/-- `Σ_{z_0 … z_n < K} u(z_0) · Π_{i<n} M_i(z_i, z_{i+1}) · w(z_n)` -/
def pathSum (K : ℕ) (M : ℕ → ℕ → ℕ → R) : ℕ → (ℕ → R) → (ℕ → R) → R
  | 0, u, w => ∑ q ∈ range K, u q * w q
  | n + 1, u, w => ∑ q ∈ range K, u q * pathSum K (fun i => M (i + 1)) n (M 0 q) w

theorem pathSum_snoc (K : ℕ) (M : ℕ → ℕ → ℕ → R) (n : ℕ) (u w : ℕ → R) :
    pathSum K M (n + 1) u w
      = pathSum K M n u (fun r => ∑ q ∈ range K, M n r q * w q) := by
  induction n generalizing M u with
  | zero => rfl
  | succ n ih =>
    rw [pathSum, pathSum]
    exact Finset.sum_congr rfl fun q _ => by rw [ih]

theorem pathSum_eq_sum (K : ℕ) (M : ℕ → ℕ → ℕ → R) (n : ℕ) (u w : ℕ → R) :
    pathSum K M n u w = ∑ z : Fin (n + 1) → Fin K,
      u (z 0).val * (∏ i : Fin n, M i.val (z i.castSucc).val (z i.succ).val)
        * w (z (Fin.last n)).val := by
  induction n generalizing M u with
  | zero =>
    rw [pathSum, Finset.sum_range]
    exact (Fintype.sum_equiv (Equiv.funUnique (Fin 1) (Fin K)) _ _
      (fun z => by rw [Fin.prod_univ_zero, mul_one]; rfl)).symm
  | succ n ih =>
    -- a path `z_0 … z_{n+1}` is its first state `q` and the path `z'` from `z_1` on,
    -- `z = Fin.cons q z'`: the sum over paths becomes the sum over pairs `(q, z')`
    rw [pathSum, Finset.sum_range,
      ← (Fin.consEquiv (fun _ : Fin (n + 1 + 1) => Fin K)).sum_comp, Fintype.sum_prod_type]
    refine Finset.sum_congr rfl (fun q _ => ?_)
    rw [ih, Finset.mul_sum]
    refine Finset.sum_congr rfl (fun z' _ => ?_)
    rw [Fin.prod_univ_succ]
    -- `(cons q z') 0 = q`, `(cons q z') i.succ = z' i`, `last (n + 1) = (last n).succ`; then
    -- re-associate
    simp only [Fin.consEquiv_apply, Fin.cons_zero, Fin.cons_succ, Fin.castSucc_zero,
      ← Fin.succ_last, ← Fin.succ_castSucc, Fin.val_succ, Fin.val_zero, mul_assoc]

theorem mavOnes_block (rank i h : ℕ) {j : ℕ} (hj : j < rank) :
    mavOnes (Ops.ofCommSemiring R) rank i (h * rank + j) = if h = i then 1 else 0 := by
  simp only [mavOnes, div_of_lt_add hj, ofCS_one, ofCS_zero]

/-- `C20.tt_step` on a layer: among the inputs `h : Fin rank` only `h = i` meets a non-zero
    weight. -/
theorem eval_blockOnes (x : ℕ → V) (rank : ℕ) (ch : Fin rank → Node R V) (i : Fin rank) :
    (Node.sum rank rank rank (mavOnes (Ops.ofCommSemiring R) rank) ch).eval
        (Ops.ofCommSemiring R) x i.val
      = ∑ j ∈ range rank, (ch i).eval (Ops.ofCommSemiring R) x j := by
  rw [Node.eval_sum, Finset.sum_eq_single_of_mem i (Finset.mem_univ i)]
  · refine Finset.sum_congr rfl fun j hj => ?_
    rw [mavOnes_block rank _ _ (Finset.mem_range.mp hj), if_pos rfl, one_mul]
  · refine fun h _ hne => Finset.sum_eq_zero fun j hj => ?_
    rw [mavOnes_block rank _ _ (Finset.mem_range.mp hj), if_neg (Fin.val_ne_of_ne hne), zero_mul]

end

/-! The template trees are well formed and have a single output unit (so `Node.evalV`, which the
  driver runs, returns `Node.eval … 0`: `Node.evalV_single`). -/

theorem cpNode_wf (n rank : ℕ) (w : ℕ → R) (A : ℕ → ℕ → V → R) :
    (cpNode n rank w A).WF ∧ (cpNode n rank w A).units = 1 :=
  ⟨fun _ => ⟨fun _ => ⟨trivial, rfl⟩, rfl⟩, rfl⟩

theorem tuckerNode_wf (n rank : ℕ) (core : ℕ → R) (A : ℕ → ℕ → V → R) :
    (tuckerNode n rank core A).WF ∧ (tuckerNode n rank core A).units = 1 :=
  ⟨fun _ => ⟨fun _ => ⟨trivial, rfl⟩, rfl⟩, rfl⟩

theorem ffNode_wf (n : ℕ) (F : ℕ → V → R) : (ffNode n F).WF ∧ (ffNode n F).units = 1 := by
  unfold ffNode
  split
  · exact ⟨trivial, rfl⟩
  · exact ⟨fun _ => ⟨trivial, rfl⟩, rfl⟩

theorem ttChain_wf (o : Ops R) (rank : ℕ) (first : ℕ → V → R) (G : ℕ → ℕ → ℕ → V → R) (m : ℕ) :
    (ttChain o rank first G m).WF ∧ (ttChain o rank first G m).units = rank := by
  induction m with
  | zero => exact ⟨trivial, rfl⟩
  | succ m ih => exact ⟨fun _ => ⟨Node.wf_pair ih ⟨trivial, rfl⟩, rfl⟩, rfl⟩

theorem ttNode_wf (o : Ops R) (inner rank : ℕ) (first : ℕ → V → R) (G : ℕ → ℕ → ℕ → V → R)
    (last : ℕ → V → R) :
    (ttNode o inner rank first G last).WF ∧ (ttNode o inner rank first G last).units = 1 :=
  ⟨fun _ => ⟨Node.wf_pair (ttChain_wf o rank first G inner) ⟨trivial, rfl⟩, rfl⟩, rfl⟩

theorem hmmFrom_wf (K : ℕ) (E : ℕ → ℕ → V → R) (T : ℕ → ℕ → ℕ → R) (rest : List ℕ) :
    ∀ pos v, (hmmFrom K E T pos v rest).WF ∧ (hmmFrom K E T pos v rest).units = hmmOut K pos := by
  induction rest with
  | nil => intro pos v; exact ⟨fun _ => ⟨trivial, rfl⟩, rfl⟩
  | cons w rest ih =>
    intro pos v
    have hK : hmmOut K (pos + 1) = K := if_neg (Nat.succ_ne_zero pos)
    exact ⟨fun _ => ⟨Node.wf_pair (hK ▸ ih (pos + 1) w) ⟨trivial, rfl⟩, rfl⟩, rfl⟩

theorem hmmNode_wf (K : ℕ) (E : ℕ → ℕ → V → R) (T : ℕ → ℕ → ℕ → R) (v : ℕ) (rest : List ℕ) :
    (hmmNode K E T (v :: rest)).WF ∧ (hmmNode K E T (v :: rest)).units = 1 :=
  hmmFrom_wf K E T rest 0 v

end Tpl
end Cirkit
