/-
  CirkitModel.Proofs.Index — row-major flattening of sums: a sum over the flat index of a pair,
  read also at its two coordinates, is the double sum over the coordinates (over `Fin (a * b)`,
  from Mathlib's `finProdFinEquiv`, and over `range (a * b)`), and the sum × sum product rule that
  rests on it.  The `n`-ary form: the flat index `Tpl.flatIdx` of a tuple has the tuple as its
  mixed-radix digits (`digit_flatIdx`), and a sum over `range (k ^ n)` is the sum over the tuples
  (`sum_range_pow_digits`, from Mathlib's `finFunctionFinEquiv`).
-/
import Mathlib.Algebra.BigOperators.Ring.Finset
import Mathlib.Algebra.BigOperators.Fin
import Mathlib.Logic.Equiv.Fin.Basic
import CirkitModel.Spec.Node

open Finset

namespace Cirkit
variable {R : Type} [CommSemiring R]

theorem sum_fin_mul_divMod (a b : ℕ) (F : Fin a → Fin b → R) :
    ∑ h : Fin (a * b), F h.divNat h.modNat = ∑ i, ∑ j, F i j := by
  rw [← Fintype.sum_prod_type']
  exact Fintype.sum_equiv finProdFinEquiv.symm _ _ fun _ => rfl

/-- `f` takes the flat index `c = i * b + j` too, which may occur next to its coordinates -/
theorem sum_range_mul_divMod (a b : ℕ) (f : ℕ → ℕ → ℕ → R) :
    ∑ c ∈ range (a * b), f c (c / b) (c % b)
      = ∑ i ∈ range a, ∑ j ∈ range b, f (i * b + j) i j := by
  simp only [Finset.sum_range]
  rw [← sum_fin_mul_divMod a b fun i j => f (i * b + j) i j]
  exact sum_congr rfl fun c _ => by rw [Fin.coe_divNat, Fin.coe_modNat, Nat.div_add_mod']

theorem sum_range_mul (a b : ℕ) (f : ℕ → R) :
    ∑ c ∈ range (a * b), f c = ∑ i ∈ range a, ∑ j ∈ range b, f (i * b + j) :=
  sum_range_mul_divMod a b fun c _ _ => f c

/-- the sum×sum product rule with the column layout `(h1,h2,i1,i2)` the product sum layer reads;
    inputs indexed by `Fin` and units by `ℕ`, as in `Node.sum` -/
theorem sum_sum_rule_fin (ar1 ar2 k1 k2 : ℕ) (W1 W2 : ℕ → R) (e1 : Fin ar1 → ℕ → R)
    (e2 : Fin ar2 → ℕ → R) :
    (∑ h : Fin (ar1 * ar2), ∑ j ∈ range (k1 * k2),
        (W1 (h.divNat * k1 + j / k2) * W2 (h.modNat * k2 + j % k2))
          * (e1 h.divNat (j / k2) * e2 h.modNat (j % k2)))
      = (∑ h1 : Fin ar1, ∑ j1 ∈ range k1, W1 (h1 * k1 + j1) * e1 h1 j1)
        * (∑ h2 : Fin ar2, ∑ j2 ∈ range k2, W2 (h2 * k2 + j2) * e2 h2 j2) := by
  rw [sum_fin_mul_divMod ar1 ar2 fun h1 h2 => ∑ j ∈ range (k1 * k2),
      (W1 (h1 * k1 + j / k2) * W2 (h2 * k2 + j % k2)) * (e1 h1 (j / k2) * e2 h2 (j % k2)),
    sum_mul_sum]
  refine sum_congr rfl fun h1 _ => sum_congr rfl fun h2 _ => ?_
  rw [sum_range_mul_divMod k1 k2 fun _ j1 j2 =>
      (W1 (h1 * k1 + j1) * W2 (h2 * k2 + j2)) * (e1 h1 j1 * e2 h2 j2), sum_mul_sum]
  exact sum_congr rfl fun j1 _ => sum_congr rfl fun j2 _ => mul_mul_mul_comm ..

/-- the sum×sum product rule with the column layout `(h1,h2,i1,i2)` the product sum layer reads -/
theorem sum_sum_rule (ar1 ar2 k1 k2 : ℕ) (W1 W2 : ℕ → R) (e1 : ℕ → ℕ → R) (e2 : ℕ → ℕ → R) :
    (∑ h ∈ range (ar1 * ar2), ∑ j ∈ range (k1 * k2),
        (W1 ((h / ar2) * k1 + j / k2) * W2 ((h % ar2) * k2 + j % k2))
          * (e1 (h / ar2) (j / k2) * e2 (h % ar2) (j % k2)))
      = (∑ h1 ∈ range ar1, ∑ j1 ∈ range k1, W1 (h1 * k1 + j1) * e1 h1 j1)
        * (∑ h2 ∈ range ar2, ∑ j2 ∈ range k2, W2 (h2 * k2 + j2) * e2 h2 j2) := by
  -- the three outer sums over `Fin`; then `(h : Fin _).divNat` is `h / ar2` by unfolding
  rw [Finset.sum_range, Finset.sum_range (n := ar1), Finset.sum_range (n := ar2)]
  exact sum_sum_rule_fin ar1 ar2 k1 k2 W1 W2 (fun h => e1 h) (fun h => e2 h)

namespace Tpl

/-- `flatIdx` is Mathlib's `finFunctionFinEquiv : (Fin n → Fin k) ≃ Fin (k ^ n)` at the reversed
    tuple: that equivalence is little-endian, `g ↦ Σ_i g_i · k^i`, and position `i = rev j` of
    `f ∘ rev` holds `f_j` with weight `k^(n-1-j)`. -/
theorem flatIdx_eq (k n : ℕ) (f : Fin n → Fin k) :
    flatIdx k n f = (finFunctionFinEquiv (fun i => f (Fin.rev i))).val := by
  rw [finFunctionFinEquiv_apply, ← Equiv.sum_comp Fin.revPerm]
  -- exponents: `rev j = n - (j + 1)` on the right, `n - 1 - j` on the left
  exact Finset.sum_congr rfl fun j _ => by
    rw [Fin.revPerm_apply, Fin.rev_rev, Fin.val_rev, Nat.sub_sub, Nat.add_comm]

theorem flatIdx_lt (k n : ℕ) (f : Fin n → Fin k) : flatIdx k n f < k ^ n := by
  rw [flatIdx_eq]; exact Fin.is_lt _

/-- The inverse of `finFunctionFinEquiv` reads component `i` of `c` as `c / k ^ i % k`; at
    `i = rev j` the exponent is `n - 1 - j`, which is `digit k n j`. -/
theorem digit_flatIdx (k n : ℕ) (f : Fin n → Fin k) (j : Fin n) :
    digit k n j.val (flatIdx k n f) = (f j).val := by
  have h : (finFunctionFinEquiv.symm (finFunctionFinEquiv fun i => f (Fin.rev i)) (Fin.rev j)).val
      = (f (Fin.rev (Fin.rev j))).val :=
    congrArg Fin.val (congrFun (finFunctionFinEquiv.symm_apply_apply _) (Fin.rev j))
  -- the goal is `h` with `digit` unfolded; `← Nat.sub_sub, Nat.sub_right_comm` turn
  -- `n - (j + 1)` into `n - 1 - j`
  rwa [finFunctionFinEquiv_symm_apply_val, Fin.rev_rev, Fin.val_rev, ← flatIdx_eq,
    ← Nat.sub_sub, Nat.sub_right_comm] at h

/-- the `n`-ary `sum_range_mul_divMod` -/
theorem sum_range_pow_digits (k n : ℕ) (g : ℕ → (Fin n → ℕ) → R) :
    ∑ c ∈ range (k ^ n), g c (fun j => digit k n j.val c)
      = ∑ f : Fin n → Fin k, g (flatIdx k n f) (fun j => (f j).val) := by
  rw [Finset.sum_range]
  symm
  -- re-index along `f ↦ finFunctionFinEquiv (f ∘ rev)`: `arrowCongr revPerm refl f` is
  -- `fun i => f (rev i)` by unfolding (`revPerm.symm = revPerm`), so `e` below is `flatIdx_eq`
  refine Fintype.sum_equiv
    ((Equiv.arrowCongr Fin.revPerm (Equiv.refl (Fin k))).trans finFunctionFinEquiv) _ _
    fun f => ?_
  have e : (((Equiv.arrowCongr Fin.revPerm (Equiv.refl (Fin k))).trans finFunctionFinEquiv) f).val
      = flatIdx k n f := (flatIdx_eq k n f).symm
  simp only [e, digit_flatIdx]

end Tpl

end Cirkit
