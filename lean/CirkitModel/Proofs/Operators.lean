/-
  CirkitModel.Proofs.Operators — `integrate` (C03) and masked evaluation / `IntegrateQuery` (C11)
  on the `Node` model, through `Node.close` and with `Node.maskedEval` as the general evaluator;
  quadrature rules are linear functionals (`quad_linFun`).
-/
import Mathlib.Algebra.BigOperators.Fin
import Mathlib.Algebra.BigOperators.Group.List.Basic
import CirkitModel.Model.Node
import CirkitModel.Proofs.Bridge
import CirkitModel.Proofs.Basics

open Finset

namespace Cirkit

section Close
variable {R V : Type}

namespace Node

/-- Close the input layers over the variables at which `σ` gives a functional: such a layer
    becomes the constant layer of the functional's values.  `integ1`, `integ` and `evid` are
    instances (`integ1_eq_close`, `integ_eq_close`, `evid_eq_close`: evidence is integration
    against point evaluations), so what they keep of the structure is proved here, once. -/
def close (σ : ℕ → Option ((V → R) → R)) : Node R V → Node R V
  | leaf v k f => match σ v with
      | some S => const k fun i => S (f i)
      | none => leaf v k f
  | const k c => const k c
  | sum ar kin kout W ch => sum ar kin kout W fun h => (ch h).close σ
  | had ar k ch => had ar k fun h => (ch h).close σ
  | kron ar k ch => kron ar k fun h => (ch h).close σ

section
variable (σ τ : ℕ → Option ((V → R) → R))

theorem close_leaf_some {v k : ℕ} {f : ℕ → V → R} {S : (V → R) → R} (h : σ v = some S) :
    (leaf v k f).close σ = const k fun i => S (f i) := by
  rw [close, h]

theorem close_leaf_none {v k : ℕ} {f : ℕ → V → R} (h : σ v = none) :
    (leaf v k f).close σ = leaf v k f := by
  rw [close, h]

/-- a closed leaf is the leaf itself or a constant layer of the same size -/
theorem close_leaf_cases {P : Node R V → Prop} {v k : ℕ} {f : ℕ → V → R} (hleaf : P (leaf v k f))
    (hconst : ∀ c, P (const k c)) : P ((leaf v k f).close σ) := by
  cases h : σ v with
  | none => rw [close_leaf_none σ h]; exact hleaf
  | some S => rw [close_leaf_some σ h]; exact hconst _

theorem mem_close (n : Node R V) (z : ℕ) : Mem z (n.close σ) ↔ Mem z n ∧ σ z = none := by
  induction n with
  | leaf v k f =>
    -- the leaf over `v` stays iff `σ v = none`; then its scope is `{v}`, otherwise it is empty
    cases h : σ v with
    | none => rw [close_leaf_none σ h]; exact ⟨fun e => ⟨e, e ▸ h⟩, And.left⟩
    | some S =>
      rw [close_leaf_some σ h]
      exact ⟨False.elim, fun ⟨e, hz⟩ => by rw [e, h] at hz; cases hz⟩
  | const k c => exact ⟨False.elim, And.left⟩
  | sum ar kin kout W ch ih | had ar k ch ih | kron ar k ch ih =>
    exact (exists_congr ih).trans exists_and_right

theorem close_of_not_mem (n : Node R V) (h : ∀ v, Mem v n → σ v = none) : n.close σ = n := by
  induction n with
  | leaf v k f => exact close_leaf_none σ (h v rfl)
  | const k c => rfl
  | sum ar kin kout W ch ih | had ar k ch ih | kron ar k ch ih =>
    simp only [close, fun h' => ih h' fun v hv => h v ⟨h', hv⟩]

theorem close_units (n : Node R V) : (n.close σ).units = n.units := by
  cases n with
  | leaf v k f => exact close_leaf_cases σ (P := fun m => m.units = k) rfl fun _ => rfl
  | _ => rfl

theorem close_wf (n : Node R V) (h : n.WF) : (n.close σ).WF := by
  induction n with
  | leaf v k f => exact close_leaf_cases σ trivial fun _ => trivial
  | const k c => trivial
  | sum ar kin kout W ch ih | had ar k ch ih | kron ar k ch ih =>
    exact fun h' => ⟨ih h' (h h').1, (close_units ..).trans (h h').2⟩

theorem close_smooth (n : Node R V) (hs : n.Smooth) : (n.close σ).Smooth := by
  induction n with
  | leaf v k f => exact close_leaf_cases σ trivial fun _ => trivial
  | const k c => trivial
  | sum ar kin kout W ch ih =>
    exact ⟨fun h => ih h (hs.1 h), fun h h' z => by rw [mem_close, mem_close, hs.2 h h' z]⟩
  | had ar k ch ih | kron ar k ch ih => exact fun h => ih h (hs h)

theorem close_decomp (n : Node R V) (hd : n.Decomp) : (n.close σ).Decomp := by
  induction n with
  | leaf v k f => exact close_leaf_cases σ trivial fun _ => trivial
  | const k c => trivial
  | sum ar kin kout W ch ih => exact fun h => ih h (hd h)
  | had ar k ch ih | kron ar k ch ih =>
    refine ⟨fun h => ih h (hd.1 h), fun h h' z hne hm hm' => ?_⟩
    rw [mem_close] at hm hm'
    exact hd.2 h h' z hne hm.1 hm'.1

theorem close_close (n : Node R V) : (n.close σ).close τ = n.close fun v => (σ v).or (τ v) := by
  induction n with
  -- both sides close the leaf, the right one with `(σ v).or (τ v)`: unfold and compute at `σ v`
  | leaf v k f => cases h : σ v <;> simp only [close, h, Option.none_or, Option.some_or]
  | const k c => rfl
  | sum ar kin kout W ch ih | had ar k ch ih | kron ar k ch ih => simp only [close, ih]

theorem maskedEval_close (o : Ops R) (S : ℕ → (V → R) → R) (m : ℕ → Bool) (x : ℕ → V)
    (n : Node R V) (i : ℕ) :
    (n.close σ).maskedEval o S m x i
      = n.maskedEval o (fun v => (σ v).getD (S v)) (fun v => (σ v).isSome || m v) x i := by
  induction n generalizing i with
  | leaf v k f =>
    cases h : σ v with
    | none => simp only [close_leaf_none σ h, maskedEval, h, Option.getD, Option.isSome,
        Bool.false_or]
    | some S => simp only [close_leaf_some σ h, maskedEval, h, Option.getD, Option.isSome,
        Bool.true_or, if_true]
  | const k c => rfl
  | sum ar kin kout W ch ih | had ar k ch ih | kron ar k ch ih => simp only [close, maskedEval, ih]

end

theorem integ1_eq_close (n : Node R V) (v : ℕ) (S : (V → R) → R) :
    n.integ1 v S = n.close fun u => if u = v then some S else none := by
  induction n with
  | leaf v' k f =>
    by_cases h : v' = v
    · rw [integ1, if_pos h, close_leaf_some _ (if_pos h)]
    · rw [integ1, if_neg h, close_leaf_none _ (if_neg h)]
  | const k c => rfl
  | sum ar kin kout W ch ih | had ar k ch ih | kron ar k ch ih => simp only [integ1, close, ih]

theorem integ_eq_close (n : Node R V) (S : ℕ → (V → R) → R) (zs : List ℕ) :
    n.integ S zs = n.close fun u => if u ∈ zs then some (S u) else none := by
  induction zs generalizing n with
  | nil => exact (close_of_not_mem _ n fun _ _ => if_neg List.not_mem_nil).symm
  | cons v vs ih =>
    rw [integ, ih, integ1_eq_close, close_close]
    -- `v` is closed first and wins; as `S` is indexed by the variable, the order does not show
    congr 1
    funext u
    by_cases h : u = v
    · subst h; rw [if_pos rfl, if_pos List.mem_cons_self]; rfl
    · simp only [List.mem_cons, h, false_or]; rfl

theorem evid_eq_close (n : Node R V) (obs : ℕ → Option V) :
    n.evid obs = n.close fun u => (obs u).map fun a g => g a := by
  induction n with
  | leaf v k f => cases h : obs v with
    | none => rw [evid, h, close_leaf_none _ (congrArg _ h)]
    | some a => rw [evid, h, close_leaf_some _ (congrArg _ h)]
  | const k c => rfl
  | sum ar kin kout W ch ih | had ar k ch ih | kron ar k ch ih => simp only [evid, close, ih]

theorem integ1_of_not_mem (n : Node R V) (v : ℕ) (S : (V → R) → R) (hv : ¬ Node.Mem v n) :
    n.integ1 v S = n :=
  (integ1_eq_close n v S).trans <|
    close_of_not_mem _ n fun u hu => if_neg fun e : u = v => hv (e ▸ hu)

theorem mem_integ1 (n : Node R V) (v z : ℕ) (S : (V → R) → R) :
    Node.Mem z (n.integ1 v S) ↔ (Node.Mem z n ∧ z ≠ v) := by
  rw [integ1_eq_close, mem_close, ite_some_eq_none, and_iff_left rfl]

theorem mem_integ (n : Node R V) (S : ℕ → (V → R) → R) (zs : List ℕ) (z : ℕ) :
    Node.Mem z (n.integ S zs) ↔ (Node.Mem z n ∧ z ∉ zs) := by
  rw [integ_eq_close, mem_close, ite_some_eq_none, and_iff_left rfl]

theorem integ_append (n : Node R V) (S : ℕ → (V → R) → R) (zs1 zs2 : List ℕ) :
    n.integ S (zs1 ++ zs2) = (n.integ S zs1).integ S zs2 := by
  induction zs1 generalizing n with
  | nil => rfl
  | cons v vs ih => simp only [List.cons_append, integ, ih]

theorem integ_perm (n : Node R V) (S : ℕ → (V → R) → R) (zs zs' : List ℕ) (hperm : zs.Perm zs') :
    n.integ S zs = n.integ S zs' := by
  simp only [integ_eq_close, hperm.mem_iff]

end Node
end Close

/-! Masked evaluation, over any operation record.  `maskedEval` with nothing masked is `eval`
(`maskedEval_false`), so the congruence below is also the statement that a layer depends on its
input only through the variables of its scope. -/

section MaskedEval
variable {R V : Type}

namespace Node

theorem maskedEval_congr (o : Ops R) {S S' : ℕ → (V → R) → R} {m m' : ℕ → Bool} {x x' : ℕ → V}
    (n : Node R V)
    (h : ∀ v, Mem v n → ∀ g : V → R,
      (if m v then S v g else g (x v)) = if m' v then S' v g else g (x' v)) (i : ℕ) :
    n.maskedEval o S m x i = n.maskedEval o S' m' x' i := by
  induction n generalizing i with
  | leaf v k f => exact h v rfl (f i)
  | const k c => rfl
  | sum ar kin kout W ch ih | had ar k ch ih | kron ar k ch ih =>
    have ih' := fun h' => ih h' fun v hv => h v ⟨h', hv⟩
    simp only [maskedEval, ih']

theorem maskedEval_false (o : Ops R) (S : ℕ → (V → R) → R) (x : ℕ → V) (n : Node R V) (i : ℕ) :
    n.maskedEval o S (fun _ => false) x i = n.eval o x i := by
  induction n generalizing i with
  | leaf v k f => rfl
  | const k c => rfl
  | sum ar kin kout W ch ih | had ar k ch ih | kron ar k ch ih => simp only [maskedEval, eval, ih]

theorem eval_congr_scope (o : Ops R) (n : Node R V) {x x' : ℕ → V}
    (h : ∀ v, Mem v n → x v = x' v) (i : ℕ) : n.eval o x i = n.eval o x' i := by
  rw [← maskedEval_false o (fun _ _ => o.zero), ← maskedEval_false o (fun _ _ => o.zero)]
  exact maskedEval_congr o n (fun v hv g => by rw [h v hv]) i

theorem eval_upd_of_not_mem (o : Ops R) (n : Node R V) (v : ℕ) (hv : ¬ Node.Mem v n) (x : ℕ → V)
    (a : V) (i : ℕ) : n.eval o (Node.upd x v a) i = n.eval o x i :=
  eval_congr_scope o n (fun u hu => if_neg fun e : u = v => hv (e ▸ hu)) i

/-- `maskedEval_close` at the empty mask; `S` is read at no variable that `σ` closes and is masked
    at no other, so any `S` will do -/
theorem eval_close (o : Ops R) (σ : ℕ → Option ((V → R) → R)) (S : ℕ → (V → R) → R) (x : ℕ → V)
    (n : Node R V) (i : ℕ) :
    (n.close σ).eval o x i
      = n.maskedEval o (fun v => (σ v).getD (S v)) (fun v => (σ v).isSome) x i := by
  rw [← maskedEval_false o S, maskedEval_close]
  simp only [Bool.or_false]

theorem mem_evid (n : Node R V) (obs : ℕ → Option V) (z : ℕ) :
    Node.Mem z (n.evid obs) ↔ (Node.Mem z n ∧ obs z = none) := by
  rw [evid_eq_close, mem_close, Option.map_eq_none_iff]

/-- No hypothesis on the structure, unlike `integ1_correct`: a point evaluation has not to be
    moved through a sum or a product. -/
theorem evid_correct (o : Ops R) (n : Node R V) (obs : ℕ → Option V) (y : ℕ → V) (i : ℕ) :
    (n.evid obs).eval o y i = n.eval o (fun u => (obs u).getD (y u)) i := by
  rw [evid_eq_close, eval_close o _ fun _ _ => o.zero, ← maskedEval_false o fun _ _ => o.zero]
  exact maskedEval_congr o n (fun v _ g => by cases obs v <;> rfl) i

theorem evid_ignores (o : Ops R) (n : Node R V) (obs : ℕ → Option V) (y y' : ℕ → V)
    (h : ∀ u, obs u = none → y u = y' u) (i : ℕ) :
    (n.evid obs).eval o y i = (n.evid obs).eval o y' i :=
  eval_congr_scope o _ (fun u hu => h u ((mem_evid ..).mp hu).2) i

end Node
end MaskedEval

section
variable {R V : Type} [CommSemiring R]

theorem quad_eq_sum (dom : List V) (w g : V → R) :
    Node.quad (Ops.ofCommSemiring R) dom w g = (dom.map fun a => w a * g a).sum :=
  List.sum_eq_foldl.symm

theorem quad_linFun (dom : List V) (w : V → R) :
    LinFun (Node.quad (Ops.ofCommSemiring R) dom w) := by
  constructor
  · intro f g
    simp only [quad_eq_sum, mul_add, List.sum_map_add]
  · intro c f
    simp only [quad_eq_sum, mul_left_comm _ c, List.sum_map_mul_left]

theorem quad_map (σ : R →+* R) (dom : List V) (w : V → R) (hw : ∀ a, σ (w a) = w a) (g : V → R) :
    Node.quad (Ops.ofCommSemiring R) dom w (fun a => σ (g a))
      = σ (Node.quad (Ops.ofCommSemiring R) dom w g) := by
  -- `σ` goes through the sum of the list and through each product, and fixes the weights
  simp only [quad_eq_sum, map_list_sum, List.map_map, Function.comp_def, map_mul, hw]

namespace LinFun
variable {S : (V → R) → R}

theorem zero (hS : LinFun S) : S (fun _ => 0) = 0 := by
  simpa using hS.smul 0 fun _ => 0

theorem mul_right (hS : LinFun S) (f : V → R) (c : R) : S (fun a => f a * c) = S f * c := by
  simp only [mul_comm _ c, hS.smul]

theorem sum (hS : LinFun S) {ι : Type} (s : Finset ι) (f : ι → V → R) :
    S (fun a => ∑ i ∈ s, f i a) = ∑ i ∈ s, S (f i) := by
  induction s using Finset.cons_induction with
  | empty => simp only [Finset.sum_empty, hS.zero]
  | cons i s hi ih => simp only [Finset.sum_cons, hS.add, ih]

end LinFun

namespace Node


/-- core step for product layers: exactly one input sees `v` -/
theorem integ1_prod_step {ar : ℕ} (ch : Fin ar → Node R V) (v : ℕ) (S : (V → R) → R)
    (hS : LinFun S) (idx : Fin ar → ℕ) (y : ℕ → V)
    (hdis : ∀ h h' v, h ≠ h' → Mem v (ch h) → ¬ Mem v (ch h'))
    (h0 : Fin ar) (hv : Mem v (ch h0))
    (ih : ∀ i, ((ch h0).integ1 v S).eval (Ops.ofCommSemiring R) y i
      = S (fun a => (ch h0).eval (Ops.ofCommSemiring R) (upd y v a) i)) :
    ∏ h, ((ch h).integ1 v S).eval (Ops.ofCommSemiring R) y (idx h)
      = S (fun a => ∏ h, (ch h).eval (Ops.ofCommSemiring R) (upd y v a) (idx h)) := by
  have hnot : ∀ h, h ≠ h0 → ¬ Mem v (ch h) := fun h hne hmem => hdis h h0 v hne hmem hv
  -- the factors that do not see `v`, at `y`
  let rest := ∏ h ∈ univ.erase h0, (ch h).eval (Ops.ofCommSemiring R) y (idx h)
  -- `integ1` leaves the rest alone
  have hL : ∏ h, ((ch h).integ1 v S).eval (Ops.ofCommSemiring R) y (idx h)
      = ((ch h0).integ1 v S).eval (Ops.ofCommSemiring R) y (idx h0) * rest :=
    prod_eq_mul_prod_erase_of_ne _ _ h0 fun h hne => by rw [integ1_of_not_mem _ _ _ (hnot h hne)]
  -- the rest does not depend on `a`
  have hR : ∀ a, ∏ h, (ch h).eval (Ops.ofCommSemiring R) (upd y v a) (idx h)
      = (ch h0).eval (Ops.ofCommSemiring R) (upd y v a) (idx h0) * rest := fun a =>
    prod_eq_mul_prod_erase_of_ne _ _ h0 fun h hne => eval_upd_of_not_mem _ _ _ (hnot h hne) _ _ _
  rw [hL, ih, ← hS.mul_right]
  exact congrArg S (funext fun a => (hR a).symm)

/-- Integrating `v` out of a smooth and decomposable tree that has `v` in its scope, with a linear
    `S`, denotes `S` of the operand as a function of `v`.  In a sum layer smoothness puts `v` in
    the scope of every input, so the hypothesis applies to each, and `S` commutes with the double
    sum and the weights; in a product layer decomposability leaves exactly one input that sees
    `v` (`integ1_prod_step`). -/
theorem integ1_correct (n : Node R V) (v : ℕ) (S : (V → R) → R) (hS : LinFun S)
    (hv : Node.Mem v n) (hs : n.Smooth) (hd : n.Decomp) (y : ℕ → V) (i : ℕ) :
    (n.integ1 v S).eval (Ops.ofCommSemiring R) y i
      = S (fun a => n.eval (Ops.ofCommSemiring R) (Node.upd y v a) i) := by
  induction n generalizing i with
  | leaf v' k f =>
    simp only [Mem] at hv
    subst hv
    simp only [integ1, if_true, eval, upd]
  | const k c => exact absurd hv (by simp only [Mem, not_false_eq_true])
  | sum ar kin kout W ch ih =>
    obtain ⟨h0, hv0⟩ := hv
    obtain ⟨hsm, hsc⟩ := hs
    simp only [integ1, eval_sum]
    rw [hS.sum]
    refine Finset.sum_congr rfl fun h _ => ?_
    rw [hS.sum]
    refine Finset.sum_congr rfl fun j _ => ?_
    rw [hS.smul, ih h ((hsc h h0 v).mpr hv0) (hsm h) (hd h) j]
  | had ar k ch ih | kron ar k ch ih =>
    obtain ⟨h0, hv0⟩ := hv
    simp only [integ1, eval_had, eval_kron]
    exact integ1_prod_step ch v S hS _ y hd.2 h0 hv0 (ih h0 hv0 (hs h0) (hd.1 h0))

theorem integ_correct (n : Node R V) (S : ℕ → (V → R) → R) (hS : ∀ v, LinFun (S v))
    (zs : List ℕ) (hnd : zs.Nodup) (hz : ∀ z ∈ zs, Node.Mem z n) (hs : n.Smooth) (hd : n.Decomp)
    (y : ℕ → V) (i : ℕ) :
    (n.integ S zs).eval (Ops.ofCommSemiring R) y i
      = Node.sumOver S zs (fun y' => n.eval (Ops.ofCommSemiring R) y' i) y := by
  induction zs generalizing n y with
  | nil => rfl
  | cons v vs ih =>
    rw [List.nodup_cons] at hnd
    simp only [integ, sumOver]
    have e := integ1_eq_close n v (S v)
    rw [ih (n.integ1 v (S v)) hnd.2 ?_ (e ▸ close_smooth _ n hs) (e ▸ close_decomp _ n hd)]
    · congr 1
      funext y'
      exact integ1_correct n v (S v) (hS v) (hz v (List.mem_cons_self ..)) hs hd y' i
    · intro z hzm
      rw [mem_integ1]
      refine ⟨hz z (List.mem_cons_of_mem _ hzm), ?_⟩
      rintro rfl
      exact hnd.1 hzm

theorem maskedEval_eq_integ (n : Node R V) (S : ℕ → (V → R) → R) (zs : List ℕ) (x : ℕ → V)
    (i : ℕ) :
    n.maskedEval (Ops.ofCommSemiring R) S (fun v => decide (v ∈ zs)) x i
      = (n.integ S zs).eval (Ops.ofCommSemiring R) x i := by
  -- with `S` itself for the default, the functionals of the closed tree are those of `S`
  rw [integ_eq_close, eval_close _ _ S]
  have e1 : ∀ v, (if v ∈ zs then some (S v) else none).getD (S v) = S v := fun v => by
    split <;> rfl
  have e2 : ∀ v, (if v ∈ zs then some (S v) else none).isSome = decide (v ∈ zs) := fun v => by
    by_cases h : v ∈ zs <;> simp only [h, if_true, if_false, Option.isSome_some,
      Option.isSome_none, decide_true, decide_false]
  simp only [e1, e2]

theorem maskedEval_mask_congr (n : Node R V) (S : ℕ → (V → R) → R) (m1 m2 : ℕ → Bool)
    (h : ∀ v, Node.Mem v n → m1 v = m2 v) (x : ℕ → V) (i : ℕ) :
    n.maskedEval (Ops.ofCommSemiring R) S m1 x i = n.maskedEval (Ops.ofCommSemiring R) S m2 x i :=
  maskedEval_congr _ n (fun v hv g => by rw [h v hv]) i

theorem maskedEval_empty (n : Node R V) (S : ℕ → (V → R) → R) (x : ℕ → V) (i : ℕ) :
    n.maskedEval (Ops.ofCommSemiring R) S (fun _ => false) x i
      = n.eval (Ops.ofCommSemiring R) x i :=
  maskedEval_false _ S x n i

end Node
end
end Cirkit
