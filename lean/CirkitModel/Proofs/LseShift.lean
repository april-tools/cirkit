/-
  CirkitModel.Proofs.LseShift — the max-shift identities the log-sum-exp implementations
  (`LSESumSemiring.apply_reduce`, `ComplexLSESumSemiring.apply_reduce`) rely on.
-/
import Mathlib.Analysis.SpecialFunctions.Log.Basic

namespace Cirkit

theorem lse_shift_real {ι : Type} (s : Finset ι) (w x : ι → ℝ) (m : ℝ)
    (hpos : 0 < ∑ i ∈ s, w i * Real.exp (x i)) :
    Real.log (∑ i ∈ s, w i * Real.exp (x i - m)) + m
      = Real.log (∑ i ∈ s, w i * Real.exp (x i)) := by
  have h1 : ∑ i ∈ s, w i * Real.exp (x i - m)
      = (∑ i ∈ s, w i * Real.exp (x i)) * Real.exp (-m) := by
    rw [Finset.sum_mul]
    exact Finset.sum_congr rfl fun i _ => by rw [sub_eq_add_neg, Real.exp_add, mul_assoc]
  rw [h1, Real.log_mul hpos.ne' (Real.exp_pos _).ne', Real.log_exp, neg_add_cancel_right]

theorem clse_shift {ι : Type} (s : Finset ι) (w x : ι → ℂ) (m : ℝ) :
    (∑ i ∈ s, w i * Complex.exp (x i - (m : ℂ))) * Complex.exp (m : ℂ)
      = ∑ i ∈ s, w i * Complex.exp (x i) := by
  rw [Finset.sum_mul]
  exact Finset.sum_congr rfl fun i _ => by rw [mul_assoc, ← Complex.exp_add, sub_add_cancel]

end Cirkit
