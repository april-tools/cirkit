/-
  CirkitModel.Proofs.Diff — behind C05 (`differentiate`): on a polynomial-input circuit
  (`Node.PolyCircuit`: a `Node (MvPolynomial ℕ S) Unit`, whose units denote polynomials, so there is
  nothing to assign: `V = Unit`), `diff1 v` with an operator `T` on the input layers denotes `T`
  (`diff1_eval`), and `(pderiv v)^[k]` is such an operator (`diff1_correct`).  Also the coefficient
  rule of `PolynomialDifferential`.
-/
import Mathlib.Algebra.MvPolynomial.PDeriv
import Mathlib.Algebra.MvPolynomial.Variables
import Mathlib.Algebra.Polynomial.Derivative
import Mathlib.Algebra.Polynomial.Coeff
import Mathlib.Data.Nat.Factorial.Basic
import CirkitModel.Model.Diff
import CirkitModel.Proofs.Bridge
import CirkitModel.Spec.Poly

open Finset

namespace Cirkit

section Structural
variable {R V : Type}

namespace Node

theorem mem_vars (n : Node R V) (v : ℕ) : v ∈ n.vars ↔ Node.Mem v n := by
  induction n with
  | leaf v' k f => simp only [vars, List.mem_singleton, Mem]
  | const k c => simp only [vars, List.not_mem_nil, Mem]
  | sum ar kin kout W ch ih | had ar k ch ih | kron ar k ch ih =>
    simp only [vars, Mem, List.mem_flatten, List.mem_ofFn, exists_exists_eq_and, ih]

theorem hasVar_iff (n : Node R V) (v : ℕ) : n.hasVar v = true ↔ Node.Mem v n := by
  unfold hasVar
  rw [List.contains_iff_mem, mem_vars]

end Node
end Structural

theorem polyDiffCoeff_eq (k n : ℕ) : polyDiffCoeff k n = (n + k).descFactorial k := by
  unfold polyDiffCoeff
  generalize n + k = m
  induction k with
  | zero => rfl
  | succ k ih =>
    rw [List.range_succ, List.foldl_append, ih, Nat.descFactorial_succ, Nat.mul_comm]
    rfl

theorem polyDiff_rule {S : Type} [CommSemiring S] (a : ℕ → S) (d k n : ℕ) :
    ((Polynomial.derivative)^[k]
        (∑ m ∈ Finset.range d, Polynomial.C (a m) * Polynomial.X ^ m)).coeff n
      = if n + k < d then (polyDiffCoeff k n : S) * a (n + k) else 0 := by
  rw [Polynomial.coeff_iterate_derivative, Polynomial.finsetSum_coeff, polyDiffCoeff_eq,
    nsmul_eq_mul]
  simp only [Polynomial.coeff_C_mul_X_pow, Finset.sum_ite_eq, Finset.mem_range, mul_ite, mul_zero]

section Poly
variable {S : Type} [CommSemiring S]

open MvPolynomial

theorem iter_pderiv_mul_of_notMem (v : ℕ) (f g : MvPolynomial ℕ S) (hv : v ∉ g.vars) (k : ℕ) :
    (pderiv v)^[k] (f * g) = (pderiv v)^[k] f * g := by
  induction k generalizing f with
  | zero => rfl
  | succ k ih =>
    rw [Function.iterate_succ_apply, Function.iterate_succ_apply, pderiv_mul,
      pderiv_eq_zero_of_notMem_vars hv, mul_zero, add_zero, ih]

theorem iter_pderiv_sum {ι : Type} (v : ℕ) (s : Finset ι) (f : ι → MvPolynomial ℕ S) (k : ℕ) :
    (pderiv v)^[k] (∑ i ∈ s, f i) = ∑ i ∈ s, (pderiv v)^[k] (f i) := by
  induction k generalizing f with
  | zero => rfl
  | succ k ih =>
    simp only [Function.iterate_succ_apply, map_sum, ih]

namespace Node

theorem eval_vars_subset (n : Node (MvPolynomial ℕ S) Unit) (hp : n.PolyCircuit)
    (x : ℕ → Unit) (i : ℕ) (v : ℕ) :
    v ∈ (n.eval (Ops.ofCommSemiring (MvPolynomial ℕ S)) x i).vars → Node.Mem v n := by
  intro hv
  induction n generalizing i with
  | leaf v' k f => exact Finset.mem_singleton.mp (hp i (x v') hv)
  | const k c => exact absurd hv ((hp i).symm ▸ Finset.notMem_empty v)
  | sum ar kin kout W ch ih =>
    rw [eval_sum] at hv
    obtain ⟨h, -, h1⟩ := Finset.mem_biUnion.mp (vars_sum_subset _ _ hv)
    obtain ⟨j, -, h2⟩ := Finset.mem_biUnion.mp (vars_sum_subset _ _ h1)
    have h3 := vars_mul _ _ h2
    rw [hp.1, Finset.empty_union] at h3
    exact ⟨h, ih h (hp.2 h) j h3⟩
  | had ar k ch ih | kron ar k ch ih =>
    simp only [eval_had, eval_kron] at hv
    obtain ⟨h, -, h1⟩ := Finset.mem_biUnion.mp (vars_prod _ hv)
    exact ⟨h, ih h (hp h) _ h1⟩

section Operator
variable (v : ℕ) (T : MvPolynomial ℕ S → MvPolynomial ℕ S)
  (hmul : ∀ f g : MvPolynomial ℕ S, v ∉ g.vars → T (f * g) = T f * g)
include hmul

theorem diff1_prod_step {ar : ℕ} (ch : Fin ar → Node (MvPolynomial ℕ S) Unit)
    (idx : Fin ar → ℕ) (x : ℕ → Unit) (hp : ∀ h, (ch h).PolyCircuit)
    (hdis : ∀ h h' v, h ≠ h' → Mem v (ch h) → ¬ Mem v (ch h'))
    (h0 : Fin ar) (hv : Mem v (ch h0))
    (ih : ∀ i, ((ch h0).diff1 v (fun g a => T (g a))).eval
        (Ops.ofCommSemiring (MvPolynomial ℕ S)) x i
      = T ((ch h0).eval (Ops.ofCommSemiring (MvPolynomial ℕ S)) x i)) :
    ∏ h, (if (ch h).hasVar v then (ch h).diff1 v (fun g a => T (g a))
        else ch h).eval (Ops.ofCommSemiring (MvPolynomial ℕ S)) x (idx h)
      = T (∏ h, (ch h).eval (Ops.ofCommSemiring (MvPolynomial ℕ S)) x (idx h)) := by
  have hnot : ∀ h, h ≠ h0 → ¬ Mem v (ch h) := fun h hne hmem => hdis h h0 v hne hmem hv
  -- the factors that do not mention `v`
  let rest := ∏ h ∈ univ.erase h0, (ch h).eval (Ops.ofCommSemiring (MvPolynomial ℕ S)) x (idx h)
  have hrest : v ∉ rest.vars := fun hm =>
    (Finset.mem_biUnion.mp (vars_prod _ hm)).elim fun h hh =>
      hnot h (Finset.mem_erase.mp hh.1).1 (eval_vars_subset _ (hp h) x _ v hh.2)
  -- `diff1` differentiates input `h0` and leaves the rest alone
  have hL : ∏ h, (if (ch h).hasVar v then (ch h).diff1 v (fun g a => T (g a))
        else ch h).eval (Ops.ofCommSemiring (MvPolynomial ℕ S)) x (idx h)
      = ((ch h0).diff1 v (fun g a => T (g a))).eval
          (Ops.ofCommSemiring (MvPolynomial ℕ S)) x (idx h0) * rest := by
    rw [prod_eq_mul_prod_erase_of_ne _ (fun h => (ch h).eval _ x (idx h)) h0 fun h hne => by
        rw [if_neg (mt (hasVar_iff _ _).mp (hnot h hne))],
      if_pos ((hasVar_iff _ _).mpr hv)]
  have hR : ∏ h, (ch h).eval (Ops.ofCommSemiring (MvPolynomial ℕ S)) x (idx h)
      = (ch h0).eval (Ops.ofCommSemiring (MvPolynomial ℕ S)) x (idx h0) * rest :=
    (Finset.mul_prod_erase univ _ (mem_univ h0)).symm
  -- `T` passes through the rest
  rw [hL, ih, hR, hmul _ _ hrest]

/-- `diff1_correct` with the operator left a variable: only two properties of `(pderiv v)^[k]`
    are used, `hmul` (a variable of this section: `T (f * g) = T f * g` when `v ∉ g.vars`) and
    `hsum`. -/
theorem diff1_eval
    (hsum : ∀ {ι : Type} (s : Finset ι) (f : ι → MvPolynomial ℕ S),
      T (∑ i ∈ s, f i) = ∑ i ∈ s, T (f i))
    (n : Node (MvPolynomial ℕ S) Unit) (hp : n.PolyCircuit) (hmem : Node.Mem v n) (hs : n.Smooth)
    (hd : n.Decomp) (x : ℕ → Unit) (i : ℕ) :
    (n.diff1 v (fun g a => T (g a))).eval (Ops.ofCommSemiring (MvPolynomial ℕ S)) x i
      = T (n.eval (Ops.ofCommSemiring (MvPolynomial ℕ S)) x i) := by
  induction n generalizing i with
  | leaf v' kk f => rfl
  | const kk c => exact hmem.elim
  | sum ar kin kout W ch ih =>
    obtain ⟨h0, hv0⟩ := hmem
    rw [diff1, eval_sum, eval_sum, hsum]
    refine Finset.sum_congr rfl fun h _ =>
      (Finset.sum_congr rfl fun j _ => ?_).trans (hsum _ _).symm
    -- weights are constants, so `T (W * e) = W * T e`
    have hW : v ∉ (W i (h.val * kin + j)).vars := (hp.1 _ _).symm ▸ Finset.notMem_empty v
    rw [ih h (hp.2 h) ((hs.2 h h0 v).mpr hv0) (hs.1 h) (hd h) j, mul_comm, mul_comm (W _ _),
      hmul _ _ hW]
  | had ar kk ch ih | kron ar kk ch ih =>
    obtain ⟨h0, hv0⟩ := hmem
    simp only [diff1, eval_had, eval_kron]
    exact diff1_prod_step v T hmul ch _ x hp hd.2 h0 hv0 (ih h0 (hp h0) hv0 (hs h0) (hd.1 h0))

end Operator

theorem diff1_correct (n : Node (MvPolynomial ℕ S) Unit) (v k : ℕ) (hp : n.PolyCircuit)
    (hmem : Node.Mem v n) (hs : n.Smooth) (hd : n.Decomp) (x : ℕ → Unit) (i : ℕ) :
    (n.diff1 v (fun g a => (pderiv v)^[k] (g a))).eval
        (Ops.ofCommSemiring (MvPolynomial ℕ S)) x i
      = (pderiv v)^[k] (n.eval (Ops.ofCommSemiring (MvPolynomial ℕ S)) x i) :=
  diff1_eval v _ (fun f g hg => iter_pderiv_mul_of_notMem v f g hg k)
    (fun s f => iter_pderiv_sum v s f k) n hp hmem hs hd x i

end Node
end Poly

end Cirkit
