/-
  CirkitModel.Proofs.Struct — lemmas behind the structural predicates (C08).  The fold that
  computes `SCirc.scopeFactorizations` is reasoned about through what one step can do to the
  accumulator (`addFact_cases`): keys stay unique and what is recorded is never dropped.
-/
import CirkitModel.Model.Sym
import CirkitModel.Proofs.Basics
import CirkitModel.Spec.Sym

namespace Cirkit

namespace SCirc

theorem forall_mem_pairs {α : Type} (R : α → α → Prop) (l : List α) :
    (∀ q ∈ pairs l, R q.1 q.2) ↔ l.Pairwise R := by
  induction l with
  | nil => exact ⟨fun _ => .nil, fun _ _ h => nomatch h⟩
  | cons x xs ih =>
    rw [pairs, List.forall_mem_append, List.forall_mem_map, ih, List.pairwise_cons]

/-- The loop shared by `isSmooth` and `isDecomposable`. Its `match` is not the model's matcher
    constant, so use it as a term (`(all_layers c _).trans …`), not with `rw`. -/
theorem all_layers {R : Type} (c : SCirc R) (f : Nat → SLayer R → Bool) :
    ((List.range c.layers.size).all fun p =>
        match c.layers[p]? with
        | some l => f p l
        | none => true) = true
      ↔ ∀ p l, c.layers[p]? = some l → f p l = true := by
  rw [List.all_eq_true]
  constructor
  · intro h p l hl
    have := h p (List.mem_range.2 (Array.getElem?_eq_some_iff.1 hl).1)
    rwa [hl] at this
  · intro h p _
    cases hl : c.layers[p]? with
    | none => rfl
    | some l => exact h p l hl

variable {R : Type}

/-- record factorization `fs` under scope `s` -/
def addFact (acc : List (Scope × List (List Scope))) (s : Scope) (fs : List Scope) :
    List (Scope × List (List Scope)) :=
  match acc.find? (·.1 == s) with
  | some (_, set) =>
      if set.contains fs then acc
      else acc.map fun (s', set') => if s' == s then (s', set' ++ [fs]) else (s', set')
  | none => acc ++ [(s, [fs])]

def factStep (c : SCirc R) (acc : List (Scope × List (List Scope))) (p : Nat) :
    List (Scope × List (List Scope)) :=
  match c.layers[p]? with
  | some l =>
      if l.kind.isProduct then
        if (c.factors l).length > 1 then addFact acc (c.scopes.getD p []) (c.factors l) else acc
      else acc
  | none => acc

theorem scopeFactorizations_eq (c : SCirc R) :
    c.scopeFactorizations = (List.range c.layers.size).foldl c.factStep [] := rfl

section addFact
variable (acc : List (Scope × List (List Scope))) (s : Scope) (fs : List Scope)

/-- `addFact` either maps over `acc` a function that keeps keys and only grows the recorded sets,
    after which `fs` is recorded under `s`, or appends `s` as a new key. -/
theorem addFact_cases {P : List (Scope × List (List Scope)) → Prop}
    (upd : ∀ g : Scope × List (List Scope) → Scope × List (List Scope), (∀ x, (g x).1 = x.1) →
      (∀ x, x.2 ⊆ (g x).2) → (∃ y ∈ acc.map g, y.1 = s ∧ fs ∈ y.2) → P (acc.map g))
    (new : (∀ x ∈ acc, x.1 ≠ s) → P (acc ++ [(s, [fs])])) : P (addFact acc s fs) := by
  unfold addFact
  cases hfind : acc.find? (·.1 == s) with
  | none =>
    exact new fun x hx => mt beq_iff_eq.2 (List.find?_eq_none.1 hfind x hx)
  | some x =>
    obtain ⟨hmem, hk⟩ := find?_key_some hfind
    dsimp only
    by_cases hc : x.2.contains fs = true
    · rw [if_pos hc, ← List.map_id acc]
      exact upd id (fun _ => rfl) (fun _ => List.Subset.refl _)
        ⟨x, List.mem_map_of_mem hmem, hk, List.contains_iff_mem.1 hc⟩
    · rw [if_neg hc]
      refine upd _ (fun y => ?_) (fun y => ?_) ⟨_, List.mem_map_of_mem hmem, ?_⟩
      · split <;> rfl
      · split
        exacts [List.subset_append_left _ _, List.Subset.refl _]
      · rw [if_pos (beq_iff_eq.2 hk)]
        exact ⟨hk, List.mem_append_right _ (List.mem_singleton_self fs)⟩

theorem addFact_keys_nodup (h : (acc.map (·.1)).Nodup) : ((addFact acc s fs).map (·.1)).Nodup := by
  refine addFact_cases (P := fun r => (r.map (·.1)).Nodup) acc s fs (fun g hg _ _ => ?_)
    (nodup_map_snoc (a := (s, [fs])) h)
  rwa [List.map_map, (funext hg : (·.1) ∘ g = (·.1))]

theorem addFact_recorded (k : Scope) (f : List Scope)
    (h : (∃ x ∈ acc, x.1 = k ∧ f ∈ x.2) ∨ (k = s ∧ f = fs)) :
    ∃ x ∈ addFact acc s fs, x.1 = k ∧ f ∈ x.2 := by
  refine addFact_cases (P := fun r => ∃ x ∈ r, x.1 = k ∧ f ∈ x.2) acc s fs
    (fun g hg hsub hs => ?_) (fun _ => ?_)
  · rcases h with ⟨y, hy, hk, hv⟩ | ⟨rfl, rfl⟩
    exacts [⟨g y, List.mem_map_of_mem hy, (hg y).trans hk, hsub y hv⟩, hs]
  · rcases h with ⟨y, hy, h⟩ | ⟨rfl, rfl⟩
    exacts [⟨y, List.mem_append_left _ hy, h⟩,
      ⟨_, List.mem_append_right _ (List.mem_singleton_self _), rfl, List.mem_singleton_self f⟩]

end addFact

theorem foldl_factStep_induction {P : List (Scope × List (List Scope)) → Prop} (c : SCirc R)
    (ps : List Nat) (acc : List (Scope × List (List Scope))) (h0 : P acc)
    (add : ∀ acc s fs, P acc → P (addFact acc s fs)) : P (ps.foldl c.factStep acc) := by
  refine List.foldlRecOn ps _ h0 fun acc h0 p _ => ?_
  unfold factStep
  cases c.layers[p]? with
  | none => exact h0
  | some l =>
    dsimp only
    by_cases h1 : l.kind.isProduct = true
    · by_cases h2 : (c.factors l).length > 1
      · rw [if_pos h1, if_pos h2]; exact add _ _ _ h0
      · rwa [if_pos h1, if_neg h2]
    · rwa [if_neg h1]

theorem factStep_of (c : SCirc R) (acc : List (Scope × List (List Scope))) (p : Nat) (l : SLayer R)
    (hl : c.layers[p]? = some l) (hprod : l.kind.isProduct = true)
    (h2 : 1 < (c.factors l).length) :
    c.factStep acc p = addFact acc (c.scopes.getD p []) (c.factors l) := by
  rw [factStep, hl]; exact (if_pos hprod).trans (if_pos h2)

theorem scopeFactorizations_inj (c : SCirc R) {x y : Scope × List (List Scope)}
    (hx : x ∈ c.scopeFactorizations) (hy : y ∈ c.scopeFactorizations) (h : x.1 = y.1) : x = y :=
  List.inj_on_of_nodup_map
    (foldl_factStep_induction (P := fun r => (r.map (·.1)).Nodup) c _ [] List.nodup_nil
      fun _ _ _ => addFact_keys_nodup _ _ _) hx hy h

theorem scopeFactorizations_complete (c : SCirc R) (p : Nat) (l : SLayer R)
    (hl : c.layers[p]? = some l) (hprod : l.kind.isProduct = true)
    (h2 : 1 < (c.factors l).length) :
    ∃ x ∈ c.scopeFactorizations, x.1 = c.scopes.getD p [] ∧ c.factors l ∈ x.2 := by
  obtain ⟨l₁, l₂, hr⟩ := List.append_of_mem (List.mem_range.2 (Array.getElem?_eq_some_iff.1 hl).1)
  -- the fold over `range n = l₁ ++ p :: l₂`: step `p` records the factors, and the steps of `l₂`
  -- keep them
  rw [scopeFactorizations_eq, hr, List.foldl_append, List.foldl_cons,
    factStep_of c _ p l hl hprod h2]
  exact foldl_factStep_induction
    (P := fun r => ∃ x ∈ r, x.1 = c.scopes.getD p [] ∧ c.factors l ∈ x.2) c l₂ _
    (addFact_recorded _ _ _ _ _ (.inr ⟨rfl, rfl⟩))
    fun _ _ _ h => addFact_recorded _ _ _ _ _ (.inl h)

theorem isStructuredDecomposable_iff (c : SCirc R) :
    c.isStructuredDecomposable = true ↔
      (c.isSmooth = true ∧ c.isDecomposable = true)
        ∧ ∀ e ∈ c.scopeFactorizations, e.2.length = 1 := by
  unfold isStructuredDecomposable
  rw [Bool.and_eq_true, Bool.and_eq_true, List.all_eq_true]
  exact and_congr_right fun _ => forall₂_congr fun e _ => beq_iff_eq

theorem areCompatible_iff (c1 c2 : SCirc R) :
    c1.areCompatible c2 = true ↔
      (c1.isSmooth = true ∧ c1.isDecomposable = true)
        ∧ (c2.isSmooth = true ∧ c2.isDecomposable = true)
        ∧ compatDir c1.scopeFactorizations c2.scopeFactorizations = true
        ∧ compatDir c2.scopeFactorizations c1.scopeFactorizations = true := by
  simp only [areCompatible, Bool.and_eq_true, and_assoc]

theorem compatDir_elim (f1 f2 : List (Scope × List (List Scope))) (h : compatDir f1 f2 = true)
    (e : Scope × List (List Scope)) (he : e ∈ f1) : ∃ a, e.2 = [a] ∧ (e.1, [a]) ∈ f2 := by
  have := List.all_eq_true.1 h e he
  dsimp only at this
  cases hfind : f2.find? (·.1 == e.1) with
  | none => rw [hfind] at this; exact nomatch this
  | some y =>
    obtain ⟨hmem, hk⟩ := find?_key_some hfind
    rw [hfind] at this
    dsimp only at this
    split at this
    · -- the match on `(e.2, y.2)` took the arm `[a], [b]`: `ha : e.2 = [a]`, `hb : y.2 = [b]`,
      -- and `this : (a == b) = true`; so `(e.1, [a])` is `y`
      rename_i a b ha hb
      exact ⟨a, ha, by rw [eq_of_beq this, ← hb, ← hk]; exact hmem⟩
    · exact nomatch this

theorem compatDir_length (f1 f2 : List (Scope × List (List Scope))) (h : compatDir f1 f2 = true)
    (e : Scope × List (List Scope)) (he : e ∈ f1) : e.2.length = 1 := by
  obtain ⟨a, ha, _⟩ := compatDir_elim f1 f2 h e he
  rw [ha]; rfl

end SCirc
end Cirkit
