/-
  CirkitModel.Proofs.Tensor — index arithmetic of the row-major tensors of
  `CirkitModel.Model.Tensor` (reading back `ofFn`/`ofFn3`), the equations of `PExpr.applyOp`
  operator by operator, and shape soundness of `applyOp` and `PExpr.eval`.
-/
import Mathlib.Data.List.GetD
import CirkitModel.Model.Tensor
import CirkitModel.Model.PExpr
import CirkitModel.Proofs.Basics

namespace Cirkit

theorem shapeSize_eq_prod (s : List Nat) : shapeSize s = s.prod := List.prod_eq_foldl.symm

@[simp] theorem shapeSize_nil : shapeSize [] = 1 := rfl

theorem shapeSize_cons (d : Nat) (ds : List Nat) : shapeSize (d :: ds) = d * shapeSize ds := by
  rw [shapeSize_eq_prod, shapeSize_eq_prod, List.prod_cons]

theorem shapeSize_append (a b : List Nat) : shapeSize (a ++ b) = shapeSize a * shapeSize b := by
  rw [shapeSize_eq_prod, shapeSize_eq_prod, shapeSize_eq_prod, List.prod_append]

theorem shapeSize_single (m : Nat) : shapeSize [m] = m := by
  rw [shapeSize_cons, shapeSize_nil, Nat.mul_one]

theorem shapeSize_pair (m n : Nat) : shapeSize [m, n] = m * n := by
  rw [shapeSize_cons, shapeSize_single]

theorem shapeSize_split3 (shape : List Nat) (ax : Nat) (h : ax < shape.length) :
    shapeSize shape
      = shapeSize (shape.take ax) * shape.getD ax 1 * shapeSize (shape.drop (ax + 1)) := by
  conv => lhs; rw [← List.take_append_drop ax shape]
  rw [shapeSize_append, List.drop_eq_getElem_cons h, shapeSize_cons, List.getD_eq_getElem _ _ h,
    Nat.mul_assoc]

theorem split3_size (shape : List Nat) (ax : Nat) (h : ax < shape.length) :
    let (o, len, inner) := Tensor.split3 shape ax
    shapeSize shape = o * len * inner :=
  shapeSize_split3 shape ax h

namespace Tensor
variable {R : Type}

@[simp] theorem ofFn3_shape (shape : List Nat) (ax : Nat) (f : Nat → Nat → Nat → R) :
    (ofFn3 shape ax f).shape = shape := rfl

@[simp] theorem ofFn3_size (shape : List Nat) (ax : Nat) (f : Nat → Nat → Nat → R) :
    (ofFn3 shape ax f).data.size = shapeSize shape :=
  Array.size_ofFn

theorem ofFn3_ok (shape : List Nat) (ax : Nat) (f : Nat → Nat → Nat → R) :
    (ofFn3 shape ax f).ok = true :=
  beq_iff_eq.2 (ofFn3_size shape ax f)

theorem ofFn3_data_getD (shape : List Nat) (ax : Nat) (f : Nat → Nat → Nat → R) (n : Nat)
    (z : R) (hn : n < shapeSize shape) :
    (ofFn3 shape ax f).data.getD n z
      = f (n / ((split3 shape ax).2.1 * (split3 shape ax).2.2))
          ((n / (split3 shape ax).2.2) % (split3 shape ax).2.1) (n % (split3 shape ax).2.2) :=
  getD_arrayOfFn _ n hn z

theorem get3_ofFn3 (shape : List Nat) (ax : Nat) (f : Nat → Nat → Nat → R)
    (h : ax < shape.length) (o a i : Nat)
    (ho : o < (split3 shape ax).1) (ha : a < (split3 shape ax).2.1)
    (hi : i < (split3 shape ax).2.2) (z : R) :
    (ofFn3 shape ax f).get3 ax o a i z = f o a i := by
  have hn : (o * (split3 shape ax).2.1 + a) * (split3 shape ax).2.2 + i < shapeSize shape := by
    rw [shapeSize_split3 shape ax h]; exact pair_lt (pair_lt ho ha) hi
  show (ofFn3 shape ax f).data.getD
    ((o * (split3 shape ax).2.1 + a) * (split3 shape ax).2.2 + i) z = _
  rw [ofFn3_data_getD _ _ _ _ _ hn, Nat.mul_comm (split3 shape ax).2.1, ← Nat.div_div_eq_div_mul,
    div_of_lt_add hi, div_of_lt_add ha, Nat.mul_add_mod_of_lt ha, Nat.mul_add_mod_of_lt hi]

theorem split3_set (s : List Nat) (ax n : Nat) (h : ax < s.length) :
    split3 (s.set ax n) ax = ((split3 s ax).1, n, (split3 s ax).2.2) := by
  simp only [split3, List.take_set_of_le (Nat.le_refl ax),
    List.drop_set_of_lt (Nat.lt_succ_self ax), List.getD_eq_getElem?_getD,
    List.getElem?_set_self h, Option.getD_some]

/-- `index`, `outerProduct` and `outerSum` build their result on the argument's shape with the
    axis entry replaced by `n`. -/
theorem get3_ofFn3_set {s : List Nat} {ax n : Nat} {f : Nat → Nat → Nat → R}
    (h : ax < s.length) (o a i : Nat) (ho : o < (split3 (s.set ax n) ax).1) (ha : a < n)
    (hi : i < (split3 (s.set ax n) ax).2.2) (z : R) :
    (ofFn3 (s.set ax n) ax f).get3 ax o a i z = f o a i :=
  get3_ofFn3 _ _ _ (by rwa [List.length_set]) o a i ho (by rwa [split3_set _ _ _ h]) hi z

@[simp] theorem ofFn_shape (shape : List Nat) (f : List Nat → R) :
    (ofFn shape f).shape = shape := rfl

@[simp] theorem ofFn_size (shape : List Nat) (f : List Nat → R) :
    (ofFn shape f).data.size = shapeSize shape :=
  Array.size_ofFn

theorem ofFn_ok (shape : List Nat) (f : List Nat → R) : (ofFn shape f).ok = true :=
  beq_iff_eq.2 (ofFn_size shape f)

theorem ofFn_data_getD (shape : List Nat) (f : List Nat → R) (n : Nat) (z : R)
    (hn : n < shapeSize shape) :
    (ofFn shape f).data.getD n z = f (unravel shape n) :=
  getD_arrayOfFn _ n hn z

/-- `offset` and `unravel` recurse on the `Forall₂` form. -/
theorem forall₂_of_getElem! {shape idx : List Nat} (hl : idx.length = shape.length)
    (h : ∀ k < shape.length, idx[k]! < shape[k]!) : List.Forall₂ (· < ·) idx shape := by
  induction shape generalizing idx with
  | nil => rw [List.length_eq_zero_iff.1 hl]; exact .nil
  | cons d ds ih =>
    obtain _ | ⟨i, is⟩ := idx
    · cases hl
    · exact .cons (h 0 (Nat.succ_pos _))
        (ih (Nat.succ.inj hl) fun k hk => h (k + 1) (Nat.succ_lt_succ hk))

theorem offset_lt {shape idx : List Nat} (h : List.Forall₂ (· < ·) idx shape) :
    offset shape idx < shapeSize shape := by
  induction h with
  | nil => exact Nat.one_pos
  | cons hi _ ih => rw [offset, shapeSize_cons]; exact pair_lt hi ih

theorem unravel_offset {shape idx : List Nat} (h : List.Forall₂ (· < ·) idx shape) :
    unravel shape (offset shape idx) = idx := by
  induction h with
  | nil => rfl
  | cons _ hr ih =>
    rw [offset, unravel, div_of_lt_add (offset_lt hr), Nat.mul_add_mod_of_lt (offset_lt hr), ih]

theorem getD_ofFn_forall₂ {shape idx : List Nat} (f : List Nat → R) (z : R)
    (h : List.Forall₂ (· < ·) idx shape) : (ofFn shape f).getD idx z = f idx :=
  (ofFn_data_getD shape f _ z (offset_lt h)).trans (congrArg f (unravel_offset h))

theorem getD_ofFn (shape : List Nat) (f : List Nat → R) (idx : List Nat) (z : R)
    (hidx : idx.length = shape.length ∧ ∀ k < shape.length, idx[k]! < shape[k]!) :
    (ofFn shape f).getD idx z = f idx :=
  getD_ofFn_forall₂ f z (forall₂_of_getElem! hidx.1 hidx.2)

theorem getD_pair (t : Tensor R) (m n i j : Nat) (z : R) (ht : t.shape = [m, n]) :
    t.getD [i, j] z = t.get2 i j z := by
  rw [Tensor.getD, Tensor.get2, ht]
  simp only [offset, shapeSize_single, shapeSize_nil, Nat.mul_one, Nat.add_zero]

theorem get2_ofFn {m n : Nat} {f : List Nat → R} {i j : Nat} {z : R} (hi : i < m) (hj : j < n) :
    (ofFn [m, n] f).get2 i j z = f [i, j] := by
  rw [← getD_pair _ m n i j z rfl]
  exact getD_ofFn_forall₂ f z (.cons hi (.cons hj .nil))

theorem zipWith_getD {f : R → R → R} {a b : Tensor R} {n : Nat} {z : R}
    (ha : n < a.data.size) (hb : n < b.data.size) :
    (Tensor.zipWith f a b).data.getD n z = f (a.data.getD n z) (b.data.getD n z) := by
  rw [Tensor.zipWith, getD_arrayOfFn _ n ha z]
  simp only [Array.getD, ha, hb, dite_true]

theorem map_getD {f : R → R} {t : Tensor R} {n : Nat} {z : R} (hn : n < t.data.size) :
    (Tensor.map f t).data.getD n z = f (t.data.getD n z) := by
  simp only [Array.getD, Tensor.map, Array.size_map, hn, ↓reduceDIte,
    Array.getInternal_eq_getElem, Array.getElem_map]

theorem size_of_ok (t : Tensor R) (h : t.ok = true) : t.data.size = shapeSize t.shape :=
  beq_iff_eq.1 h

/-- `sum` and `hadamard` differ in the combining function `f` only. -/
theorem zip_get (f : R → R → R) (a b r : Tensor R) (z : R)
    (h : (if a.shape = b.shape then some (Tensor.zipWith f a b) else none) = some r) :
    a.shape = b.shape ∧ r.shape = a.shape ∧ ∀ n, n < a.data.size → n < b.data.size →
      r.data.getD n z = f (a.data.getD n z) (b.data.getD n z) := by
  obtain ⟨hs, rfl⟩ := of_ite_some h
  exact ⟨hs, rfl, fun n ha hb => zipWith_getD ha hb⟩

theorem zip_get_ok (f : R → R → R) (a b r : Tensor R) (z : R)
    (h : (if a.shape = b.shape then some (Tensor.zipWith f a b) else none) = some r)
    (ha : a.ok = true) (hb : b.ok = true) :
    r.shape = a.shape ∧ ∀ n < shapeSize r.shape,
      r.data.getD n z = f (a.data.getD n z) (b.data.getD n z) := by
  obtain ⟨hs, hr, hget⟩ := zip_get f a b r z h
  refine ⟨hr, fun n hn => hget n ?_ ?_⟩
  · rw [size_of_ok a ha, ← hr]; exact hn
  · rw [size_of_ok b hb, ← hs, ← hr]; exact hn

end Tensor

/-! `applyOp A op args` is `(op.shape (args.map (·.shape))).bind fun s => match op, args with ..`,
and on a given operator both the shape rule and the match compute: the equations hold by
unfolding.  Where the shape rule has a guard, the guard becomes that of the whole (`ite_bind`). -/

section Unfold
open Tensor PExpr
variable {R : Type}

theorem applyOp_index (A : AOps R) (idx : List Nat) (ax : Nat) (t : Tensor R) :
    applyOp A (.index idx ax) [t]
      = if ax < t.shape.length then
          some (Tensor.ofFn3 (t.shape.set ax idx.length) ax fun o j i =>
            t.get3 ax o (idx.getD j 0) i A.zero)
        else none :=
  ite_bind _ _

theorem applyOp_outerProduct (A : AOps R) (ax : Nat) (a b : Tensor R) :
    applyOp A (.outerProduct ax) [a, b]
      = if a.shape.length = b.shape.length ∧ ax < a.shape.length then
          some (Tensor.ofFn3 (a.shape.set ax (a.shape.getD ax 0 * b.shape.getD ax 0)) ax
            fun o c i => A.mul (a.get3 ax o (c / b.shape.getD ax 1) i A.zero)
              (b.get3 ax o (c % b.shape.getD ax 1) i A.zero))
        else none :=
  ite_bind _ _

theorem applyOp_outerSum (A : AOps R) (ax : Nat) (a b : Tensor R) :
    applyOp A (.outerSum ax) [a, b]
      = if a.shape.length = b.shape.length ∧ ax < a.shape.length then
          some (Tensor.ofFn3 (a.shape.set ax (a.shape.getD ax 0 * b.shape.getD ax 0)) ax
            fun o c i => A.add (a.get3 ax o (c / b.shape.getD ax 1) i A.zero)
              (b.get3 ax o (c % b.shape.getD ax 1) i A.zero))
        else none :=
  ite_bind _ _

theorem applyOp_reduceSum (A : AOps R) (ax : Nat) (t : Tensor R) :
    applyOp A (.reduceSum ax) [t]
      = if ax < t.shape.length then
          some { shape := t.shape.eraseIdx ax,
                 data := Array.ofFn (n := shapeSize (t.shape.eraseIdx ax)) fun n =>
                   A.toOps.sumN (split3 t.shape ax).2.1 fun a =>
                     t.get3 ax (n.val / (split3 t.shape ax).2.2) a
                       (n.val % (split3 t.shape ax).2.2) A.zero }
        else none :=
  ite_bind _ _

theorem applyOp_reduceProd (A : AOps R) (ax : Nat) (t : Tensor R) :
    applyOp A (.reduceProd ax) [t]
      = if ax < t.shape.length then
          some { shape := t.shape.eraseIdx ax,
                 data := Array.ofFn (n := shapeSize (t.shape.eraseIdx ax)) fun n =>
                   A.toOps.prodN (split3 t.shape ax).2.1 fun a =>
                     t.get3 ax (n.val / (split3 t.shape ax).2.2) a
                       (n.val % (split3 t.shape ax).2.2) A.zero }
        else none :=
  ite_bind _ _

theorem applyOp_kronecker (A : AOps R) (a b : Tensor R) :
    applyOp A .kronecker [a, b]
      = if a.shape.length = b.shape.length then
          some (Tensor.ofFn (List.zipWith (· * ·) a.shape b.shape) fun idx =>
            A.mul (a.getD (List.zipWith (· / ·) idx b.shape) A.zero)
              (b.getD (List.zipWith (· % ·) idx b.shape) A.zero))
        else none :=
  ite_bind _ _

theorem applyOp_square (A : AOps R) (t : Tensor R) :
    applyOp A .square [t] = some (t.map fun x => A.mul x x) := rfl

theorem applyOp_conj (A : AOps R) (t : Tensor R) :
    applyOp A .conj [t] = some (t.map A.conj) := rfl

theorem applyOp_sum (A : AOps R) (a b : Tensor R) :
    applyOp A .sum [a, b] = if a.shape = b.shape then some (Tensor.zipWith A.add a b) else none :=
  ite_bind _ _

theorem applyOp_hadamard (A : AOps R) (a b : Tensor R) :
    applyOp A .hadamard [a, b]
      = if a.shape = b.shape then some (Tensor.zipWith A.mul a b) else none :=
  ite_bind _ _

theorem applyOp_mixing (A : AOps R) (t : Tensor R) (K H : Nat) (ht : t.shape = [K, H]) :
    applyOp A .mixing [t]
      = some (Tensor.ofFn [K, K * H] fun idx =>
          match idx with
          | [r, c] => if c % K = r then t.get2 r (c / K) A.zero else A.zero
          | _ => A.zero) := by
  obtain ⟨_, _⟩ := t
  cases ht
  rfl

theorem applyOp_polyProduct (A : AOps R) (a b : Tensor R) (k1 d1 k2 d2 : Nat)
    (ha : a.shape = [k1, d1]) (hb : b.shape = [k2, d2]) :
    applyOp A .polyProduct [a, b]
      = some (Tensor.ofFn [k1 * k2, d1 + d2 - 1] fun idx =>
          match idx with
          | [r, n] =>
              A.toOps.sumN d1 fun p =>
                if p ≤ n ∧ n - p < d2 then
                  A.mul (a.get2 (r / k2) p A.zero) (b.get2 (r % k2) (n - p) A.zero)
                else A.zero
          | _ => A.zero) := by
  obtain ⟨_, _⟩ := a
  obtain ⟨_, _⟩ := b
  cases ha
  cases hb
  rfl

theorem applyOp_polyDiff (A : AOps R) (t : Tensor R) (ord k d : Nat) (ht : t.shape = [k, d]) :
    applyOp A (.polyDiff ord) [t]
      = if d > ord then
          some (Tensor.ofFn [k, d - ord] fun idx =>
            match idx with
            | [r, n] => A.mul (fallR A (n + ord) ord) (t.get2 r (n + ord) A.zero)
            | _ => A.zero)
        else some (Tensor.ofFn [k, 1] fun _ => A.zero) := by
  obtain ⟨_, _⟩ := t
  cases ht
  -- The shape rule returns `some [k, if d > ord then d - ord else 1]` without a guard, so the
  -- bind computes.  What is left is `applyOp`'s own `if d > ord`; in each of its branches the
  -- `if` inside the shape reduces as well.
  show (if d > ord then _ else _) = _
  split <;> rfl
end Unfold

section Shape
open Tensor PExpr
variable {R : Type}

/-- Every operator returns a tensor whose shape is `POp.shape` of the argument shapes: `applyOp`
    first binds `s`, the result of the shape rule, and each branch either builds its result with
    shape `s` or keeps the shape of its first argument where the rule returns just that. -/
theorem applyOp_shape (A : AOps R) (op : POp) (args : List (Tensor R)) (r : Tensor R)
    (h : applyOp A op args = some r) : op.shape (args.map (·.shape)) = some r.shape := by
  obtain ⟨s, hs, h⟩ := Option.bind_eq_some_iff.1 h
  rw [hs, Option.some_inj]
  split at h
  -- The goals `h_1 … h_28` are the arms of `applyOp`'s match in the order it lists them:
  -- 1 index, 2 sum, 3 hadamard, 4 kronecker, 5 outerProduct, 6 outerSum, 7 exp, 8 log, 9 square,
  -- 10 softplus, 11 sigmoid, 12 scaledSigmoid, 13 clamp, 14 conj, 15 reduceSum, 16 reduceProd,
  -- 17 reduceLSE, 18 softmax, 19 logSoftmax, 20 mixing, 21 gaussProdMean, 22 gaussProdStddev,
  -- 23 gaussProdLogPart, 24 polyProduct, 25 polyDiff, 26 matmul, 27 flatten, 28 the default arm.
  -- index, kronecker, outerProduct, outerSum, reduceSum, reduceProd, flatten: shape `s`
  case h_1 | h_4 | h_5 | h_6 | h_15 | h_16 | h_27 =>
    exact congrArg Tensor.shape (Option.some.inj h)
  -- reduceLSE, softmax, logSoftmax, gaussProdMean, gaussProdStddev: shape `s` around entries
  -- that may fail
  case h_17 | h_18 | h_19 | h_21 | h_22 =>
    obtain ⟨_, -, h⟩ := Option.bind_eq_some_iff.1 h
    exact congrArg Tensor.shape (Option.some.inj h)
  -- gaussProdLogPart: the same below the constant `log (2π)`
  case h_23 =>
    obtain ⟨_, -, h⟩ := Option.bind_eq_some_iff.1 h
    obtain ⟨_, -, h⟩ := Option.bind_eq_some_iff.1 h
    exact congrArg Tensor.shape (Option.some.inj h)
  -- square, conj: the argument's shape, which is what the rule returns.  `Tensor.map` (and
  -- `{t with data := _}` in the next two groups) keeps `t.shape` definitionally; without `(… :)`
  -- `exact` unifies the mapped tensor with `t` and fails.
  case h_9 | h_14 =>
    obtain rfl := Option.some.inj hs
    exact (congrArg Tensor.shape (Option.some.inj h) :)
  -- exp, log, softplus, sigmoid, scaledSigmoid, clamp: the same around entries that may fail
  case h_7 | h_8 | h_10 | h_11 | h_12 | h_13 =>
    obtain rfl := Option.some.inj hs
    obtain ⟨_, -, h⟩ := Option.bind_eq_some_iff.1 h
    exact (congrArg Tensor.shape (Option.some.inj h) :)
  -- sum, hadamard: the first argument's shape, returned by the rule when both agree
  case h_2 | h_3 =>
    obtain rfl := Option.some.inj (Option.ite_none_right_eq_some.1 hs).2
    exact (congrArg Tensor.shape (Option.some.inj h) :)
  -- mixing, polyProduct, matmul: shape `s` when the argument shapes have rank 2
  case h_20 | h_24 | h_26 =>
    split at h
    · exact congrArg Tensor.shape (Option.some.inj h)
    · cases h
  -- polyDiff: likewise, in both branches of its `if`
  case h_25 =>
    split at h
    · split at h <;> exact congrArg Tensor.shape (Option.some.inj h)
    · cases h
  case h_28 => cases h

mutual
theorem shape_sound_aux (A : AOps R) (θ : Nat → Option (Array R)) (pre : R → R) :
    ∀ (e : PExpr R) (t : Tensor R), PExpr.eval A θ pre e = .ok t → e.shape = some t.shape
  | .tensor uid sh, t, h | .ref uid sh, t, h => by
    rw [PExpr.eval] at h
    split at h
    · -- of the size test only the `.ok` branch survives `cases h`; there `t` is the literal
      -- tensor with shape `sh`
      split at h <;> cases h
      rfl
    · cases h
  | .const sh vals, t, h => by
    rw [PExpr.eval] at h
    split at h <;> cases h
    rfl
  | .app op args, t, h => by
    rw [PExpr.eval] at h
    obtain ⟨vs, hv, h⟩ := bind_eq_ok h
    rw [PExpr.shape, shapeList_sound_aux A θ pre args vs hv]
    split at h <;> cases h
    exact applyOp_shape A op vs t ‹_›
theorem shapeList_sound_aux (A : AOps R) (θ : Nat → Option (Array R)) (pre : R → R) :
    ∀ (es : List (PExpr R)) (ts : List (Tensor R)), PExpr.eval.evalList A θ pre es = .ok ts →
      PExpr.shape.shapeList es = some (ts.map (·.shape))
  | [], ts, h => by
    rw [PExpr.eval.evalList] at h
    cases h
    rfl
  | e :: es, ts, h => by
    rw [PExpr.eval.evalList] at h
    obtain ⟨v, hv, h⟩ := bind_eq_ok h
    obtain ⟨vs, hvs, h⟩ := bind_eq_ok h
    cases h
    rw [PExpr.shape.shapeList, shape_sound_aux A θ pre e v hv,
      shapeList_sound_aux A θ pre es vs hvs]
    rfl
end

end Shape

end Cirkit
