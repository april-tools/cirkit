/-
  CirkitModel.Proofs.Fold — soundness of folding (C02).  Both evaluations are `buildList` folds:
  entry `m` is computed from the first `m` entries, and earlier entries never change.  A
  certificate is read through addresses `p = (folded module, slice)`; `FoldCert.Addresses` keeps
  of `FoldCert.valid` what soundness needs (the index entries address the right members, in
  earlier groups), and the slice invariant is a strong induction on the group of the address.
-/
import Mathlib.Data.List.GetD
import Mathlib.Data.List.Range
import Mathlib.Data.List.Perm.Subperm
import CirkitModel.Model.Fold
import CirkitModel.Proofs.Basics
import CirkitModel.Spec.Graphs

namespace Cirkit

section build
variable {β : Type}

def buildList (F : ℕ → List β → β) (n : ℕ) : List β :=
  (List.range n).foldl (fun acc m => acc ++ [F m acc]) []

theorem buildList_zero (F : ℕ → List β → β) : buildList F 0 = [] := rfl

theorem buildList_succ (F : ℕ → List β → β) (n : ℕ) :
    buildList F (n + 1) = buildList F n ++ [F n (buildList F n)] := by
  simp only [buildList, List.range_succ, List.foldl_append, List.foldl_cons, List.foldl_nil]

theorem length_buildList (F : ℕ → List β → β) (n : ℕ) : (buildList F n).length = n := by
  induction n with
  | zero => rfl
  | succ n ih => rw [buildList_succ, List.length_append, ih]; rfl

theorem buildList_getD_of_le (F : ℕ → List β → β) {m n : ℕ} (h : m ≤ n) {i : ℕ} (hi : i < m)
    (d : β) : (buildList F n).getD i d = (buildList F m).getD i d := by
  induction n, h using Nat.le_induction with
  | base => rfl
  | succ n hmn ih =>
    rw [buildList_succ, List.getD_append _ _ _ _
      (by rw [length_buildList]; exact Nat.lt_of_lt_of_le hi hmn), ih]

theorem buildList_getD (F : ℕ → List β → β) {m n : ℕ} (h : m < n) (d : β) :
    (buildList F n).getD m d = F m (buildList F m) := by
  rw [buildList_getD_of_le F (Nat.succ_le_of_lt h) (Nat.lt_succ_self m), buildList_succ,
    List.getD_append_right _ _ _ _ (by rw [length_buildList]), length_buildList, Nat.sub_self]
  rfl

end build

section evals
variable {α : Type}

theorem evalUnfolded_eq (g : UGraph) (sem : ℕ → List α → α) (dflt : α) :
    evalUnfolded g sem dflt
      = buildList (fun m acc => sem m ((g.ins m).map fun i => acc.getD i dflt)) g.n := rfl

theorem evalFolded_eq (c : FoldCert) (sem : ℕ → List α → α) (dflt : α) :
    evalFolded c sem dflt
      = buildList (fun gi acc => (List.range (c.groups.getD gi []).length).map fun f =>
          sem ((c.groups.getD gi []).getD f 0)
            (((c.inIdx.getD gi []).getD f []).map fun p => (acc.getD p.1 []).getD p.2 dflt))
          c.groups.length := rfl

theorem length_evalUnfolded (g : UGraph) (sem : ℕ → List α → α) (dflt : α) :
    (evalUnfolded g sem dflt).length = g.n := by
  rw [evalUnfolded_eq, length_buildList]

theorem length_evalFolded (c : FoldCert) (sem : ℕ → List α → α) (dflt : α) :
    (evalFolded c sem dflt).length = c.groups.length := by
  rw [evalFolded_eq, length_buildList]

theorem length_evalFolded_getD (c : FoldCert) (sem : ℕ → List α → α) (dflt : α)
    {gi : ℕ} (hgi : gi < c.groups.length) :
    ((evalFolded c sem dflt).getD gi []).length = (c.groups.getD gi []).length := by
  rw [evalFolded_eq, buildList_getD _ hgi]
  exact (List.length_map _).trans List.length_range

theorem evalUnfolded_getD (g : UGraph) (sem : ℕ → List α → α) (dflt : α) (htopo : g.Topo)
    {m : ℕ} (hm : m < g.n) :
    (evalUnfolded g sem dflt).getD m dflt
      = sem m ((g.ins m).map fun i => (evalUnfolded g sem dflt).getD i dflt) := by
  rw [evalUnfolded_eq, buildList_getD _ hm]
  refine congrArg (sem m) (List.map_congr_left fun i hi => ?_)
  exact (buildList_getD_of_le _ (Nat.le_of_lt hm) (htopo m hm i hi) dflt).symm

theorem evalFolded_getD (c : FoldCert) (sem : ℕ → List α → α) (dflt : α)
    {gi : ℕ} (hgi : gi < c.groups.length) {f : ℕ} (hf : f < (c.groups.getD gi []).length)
    (hrow : ∀ p ∈ (c.inIdx.getD gi []).getD f [], p.1 < gi) :
    ((evalFolded c sem dflt).getD gi []).getD f dflt
      = sem ((c.groups.getD gi []).getD f 0)
          (((c.inIdx.getD gi []).getD f []).map fun p =>
            ((evalFolded c sem dflt).getD p.1 []).getD p.2 dflt) := by
  rw [evalFolded_eq, buildList_getD _ hgi]
  refine (getD_map_range _ hf dflt).trans (congrArg (sem _) (List.map_congr_left fun p hp => ?_))
  rw [buildList_getD_of_le _ (Nat.le_of_lt hgi) (hrow p hp)]

end evals

theorem indexOf?_eq_idxOf? (m : ℕ) (l : List ℕ) : FoldCert.indexOf? m l = l.idxOf? m := by
  induction l with
  | nil => rfl
  | cons a as ih =>
    rw [FoldCert.indexOf?, List.idxOf?_cons, ih, beq_eq_decide]
    exact if_congr decide_eq_true_iff.symm rfl rfl

theorem indexOf?_some {m : ℕ} {l : List ℕ} {s : ℕ} (h : FoldCert.indexOf? m l = some s) :
    s < l.length ∧ l.getD s 0 = m := by
  obtain ⟨hs, e, -⟩ := List.idxOf?_eq_some_iff.mp ((indexOf?_eq_idxOf? m l).symm.trans h)
  exact ⟨hs, (List.getD_eq_getElem _ _ hs).trans e⟩

theorem indexOf?_none {m : ℕ} {l : List ℕ} (h : FoldCert.indexOf? m l = none) : m ∉ l :=
  List.idxOf?_eq_none_iff.mp ((indexOf?_eq_idxOf? m l).symm.trans h)

theorem loc_go_some {m : ℕ} {gs : List (List ℕ)} {k : ℕ} {p : ℕ × ℕ}
    (h : FoldCert.loc.go m gs k = some p) :
    ∃ j < gs.length, p.1 = k + j ∧ p.2 < (gs.getD j []).length ∧ (gs.getD j []).getD p.2 0 = m := by
  induction gs generalizing k with
  | nil => cases h
  | cons a as ih =>
    rw [FoldCert.loc.go] at h
    split at h
    · cases h; exact ⟨0, Nat.zero_lt_succ _, rfl, indexOf?_some ‹_›⟩
    · obtain ⟨j, hj, h1, h2⟩ := ih h
      exact ⟨j + 1, Nat.succ_lt_succ hj, by rw [h1, Nat.add_assoc, Nat.add_comm 1 j], h2⟩

namespace FoldCert

/-- `p = (folded module, slice)` is the address of a member -/
structure IsAddr (groups : List (List ℕ)) (p : ℕ × ℕ) : Prop where
  fst : p.1 < groups.length
  snd : p.2 < (groups.getD p.1 []).length

def memberAt (groups : List (List ℕ)) (p : ℕ × ℕ) : ℕ := (groups.getD p.1 []).getD p.2 0

end FoldCert

section addresses
open FoldCert (IsAddr memberAt)

theorem loc_some {groups : List (List ℕ)} {m : ℕ} {p : ℕ × ℕ}
    (h : FoldCert.loc groups m = some p) : IsAddr groups p ∧ memberAt groups p = m := by
  obtain ⟨j, hj, h1, h2, h3⟩ := loc_go_some h
  rw [Nat.zero_add] at h1
  subst h1
  exact ⟨⟨hj, h2⟩, h3⟩

theorem memberAt_mem_flatten {groups : List (List ℕ)} {p : ℕ × ℕ} (h : IsAddr groups p) :
    memberAt groups p ∈ groups.flatten :=
  List.mem_flatten.mpr ⟨_, getD_mem h.fst [], getD_mem h.snd 0⟩

theorem partitions_iff_perm {n : ℕ} {groups : List (List ℕ)} :
    FoldCert.partitions n groups = true ↔ groups.flatten.Perm (List.range n) := by
  simp only [FoldCert.partitions, Bool.and_eq_true, beq_iff_eq, List.all_eq_true, List.mem_range]
  refine ⟨fun ⟨hlen, hcnt⟩ => ?_, fun h => ⟨h.length_eq.trans List.length_range, fun m hm => ?_⟩⟩
  · -- pigeonhole: `range n` is duplicate-free, contained in the groups, and as long
    have hsub : List.range n ⊆ groups.flatten := fun x hx =>
      List.count_pos_iff.mp (by rw [hcnt x (List.mem_range.mp hx)]; exact Nat.one_pos)
    exact ((List.subperm_of_subset List.nodup_range hsub).perm_of_length_le
      (by rw [hlen, List.length_range])).symm
  · rw [h.count_eq, List.nodup_range.count, if_pos (List.mem_range.mpr hm)]

/-- What soundness of folding needs of a certificate: members are modules, `inIdx` and `outIdx`
    hold addresses of the inputs and of the outputs, inputs lie in earlier folded modules. -/
structure FoldCert.Addresses (g : UGraph) (c : FoldCert) : Prop where
  lt : ∀ p, IsAddr c.groups p → memberAt c.groups p < g.n
  ins : ∀ p, IsAddr c.groups p →
    ((c.inIdx.getD p.1 []).getD p.2 []).map (memberAt c.groups) = g.ins (memberAt c.groups p)
  before : ∀ p, IsAddr c.groups p → ∀ q ∈ (c.inIdx.getD p.1 []).getD p.2 [],
    q.1 < p.1 ∧ IsAddr c.groups q
  outs : c.outIdx.map (memberAt c.groups) = g.outputs
  outs_addr : ∀ q ∈ c.outIdx, IsAddr c.groups q

/-- the check of one `inIdx` entry in `FoldCert.valid` -/
theorem of_entry_check {groups : List (List ℕ)} {i gi : ℕ} {q : ℕ × ℕ}
    (h : (match FoldCert.loc groups i with
      | some p => p == q && decide (p.1 < gi)
      | none => false) = true) :
    (q.1 < gi ∧ IsAddr groups q) ∧ memberAt groups q = i := by
  split at h
  · simp only [Bool.and_eq_true, beq_iff_eq, decide_eq_true_eq] at h
    obtain ⟨rfl, hlt⟩ := h
    exact ⟨⟨hlt, (loc_some ‹_›).1⟩, (loc_some ‹_›).2⟩
  · cases h

theorem FoldCert.Addresses.of_valid {g : UGraph} {c : FoldCert} (hv : c.valid g = true) :
    c.Addresses g := by
  simp only [FoldCert.valid, Bool.and_eq_true, beq_iff_eq, List.all_eq_true,
    List.mem_range] at hv
  -- the conjuncts of `valid`: partition, length of `inIdx`, per-group checks, length of `outIdx`,
  -- outputs
  obtain ⟨⟨⟨⟨hpart, _⟩, hg⟩, hol⟩, ho⟩ := hv
  -- The last of the four checks of group `p.1` is about its rows: row `p.2` has the length of
  -- `g.ins (memberAt c.groups p)`, and each of its entries passes the entry check.
  have hrow := fun p (hp : IsAddr c.groups p) => (hg p.1 hp.fst).2 p.2 hp.snd
  have hent := fun p hp j hj => of_entry_check ((hrow p hp).2 j hj)
  refine ⟨fun p hp => ?_, fun p hp => ?_, fun p hp => ?_, ?_, ?_⟩
  · exact List.mem_range.mp ((partitions_iff_perm.mp hpart).mem_iff.mp (memberAt_mem_flatten hp))
  · exact map_eq_of_getD (0, 0) 0 (hrow p hp).1 fun j hj => (hent p hp j hj).2
  · exact forall_mem_of_getD (0, 0) fun j hj => (hent p hp j hj).1
  · exact map_eq_of_getD (0, 0) 0 hol fun j hj => (loc_some (ho j (hol ▸ hj))).2
  · exact forall_mem_of_getD (0, 0) fun j hj => (loc_some (ho j (hol ▸ hj))).1

section sound
variable {α : Type} {g : UGraph} {c : FoldCert}

theorem FoldCert.Addresses.slices (h : c.Addresses g) (htopo : g.Topo) (sem : ℕ → List α → α)
    (dflt : α) (p : ℕ × ℕ) (hp : IsAddr c.groups p) :
    ((evalFolded c sem dflt).getD p.1 []).getD p.2 dflt
      = (evalUnfolded g sem dflt).getD (memberAt c.groups p) dflt := by
  induction hgi : p.1 using Nat.strong_induction_on generalizing p with
  | _ gi ih =>
    subst hgi
    rw [evalFolded_getD c sem dflt hp.fst hp.snd (fun q hq => (h.before p hp q hq).1),
      evalUnfolded_getD g sem dflt htopo (h.lt p hp), ← h.ins p hp, List.map_map]
    exact congrArg _ (List.map_congr_left fun q hq =>
      ih q.1 (h.before p hp q hq).1 q (h.before p hp q hq).2 rfl)

theorem FoldCert.Addresses.outputs (h : c.Addresses g) (htopo : g.Topo) (sem : ℕ → List α → α)
    (dflt : α) :
    gatherOutputs c (evalFolded c sem dflt) dflt
      = g.outputs.map (fun o => (evalUnfolded g sem dflt).getD o dflt) := by
  rw [← h.outs, List.map_map]
  exact List.map_congr_left fun q hq => h.slices htopo sem dflt q (h.outs_addr q hq)

end sound

end addresses

/-! The address-book lemmas behind `C02.stackedEntry_gather` / `operandEntry_gather`; the
  soundness argument above does not use them. -/

theorem mem_dedup {a : ℕ} {l : List ℕ} : a ∈ dedup l ↔ a ∈ l := by
  induction l with
  | nil => rfl
  | cons b bs ih =>
    simp only [dedup, List.mem_cons, List.mem_filter, ih, bne_iff_ne, ne_eq]
    exact or_congr_right' fun h => and_iff_left h

theorem nodup_dedup (l : List ℕ) : (dedup l).Nodup := by
  induction l with
  | nil => exact List.nodup_nil
  | cons b bs ih =>
    refine List.nodup_cons.mpr ⟨fun h => ?_, ih.filter _⟩
    simp only [List.mem_filter, bne_self_eq_false, Bool.false_eq_true, and_false] at h

/-- `ids` need not be duplicate-free: `cumOffset` stops at the first occurrence of `mid`. -/
theorem getD_flatMap_cumOffset {α : Type} (numFolds : ℕ → ℕ) (outs : ℕ → List α) (dflt : α)
    (hlen : ∀ m, (outs m).length = numFolds m) {ids : List ℕ} {mid : ℕ} (hmem : mid ∈ ids)
    {s : ℕ} (hs : s < numFolds mid) :
    (ids.flatMap outs).getD (cumOffset numFolds ids mid + s) dflt = (outs mid).getD s dflt := by
  induction ids with
  | nil => cases hmem
  | cons a as ih =>
    rw [List.flatMap_cons, cumOffset]
    by_cases ha : a = mid
    · rw [if_pos ha, Nat.zero_add, ha, List.getD_append _ _ _ _ (by rw [hlen]; exact hs)]
    · rw [if_neg ha, Nat.add_assoc,
        List.getD_append_right _ _ _ _ (by rw [hlen]; exact Nat.le_add_right _ _), hlen,
        Nat.add_sub_cancel_left]
      exact ih ((List.mem_cons.mp hmem).resolve_left (Ne.symm ha))

end Cirkit
