/-
  CirkitModel.Proofs.Registry — the compiler registry / pipeline-context state machine
  (`CirkitModel.Model.Registry`).  `compilePipeline` is a fold of single registrations `reg` over
  `pipelineOrder`.  `Inherits s t` says that `t` satisfies `PState.Inv`, and `PState.LogTopo` if
  `s` does; it is proved for that fold, then for `compile`, every operation and every history.
  What `compile` leaves alone is `Frame`; the context-variable part (`exit_enter`, `WB`) rests on
  it.
-/
import CirkitModel.Proofs.PipelineOrder
import Mathlib.Data.List.Induction

namespace Cirkit

namespace PState

theorem ctx_setCtx (s : PState) (c c' : ℕ) (cs : CtxState) :
    (s.setCtx c' cs).ctx c = if c = c' ∧ c' < s.ctxs.length then cs else s.ctx c := by
  unfold ctx setCtx
  simp only [List.getD_eq_getElem?_getD, List.getElem?_set]
  by_cases h : c' = c
  · subst h
    by_cases h2 : c' < s.ctxs.length
    · simp only [↓reduceIte, h2, Option.getD_some, and_self]
    · simp only [↓reduceIte, h2, Option.getD_none, and_false, not_false_eq_true, getElem?_neg]
  · simp only [h, ↓reduceIte, Ne.symm h, false_and]

theorem ctx_setCtx_bimap (s : PState) (c c' : ℕ) (cs : CtxState)
    (hb : cs.bimap = (s.ctx c').bimap) :
    ((s.setCtx c' cs).ctx c).bimap = (s.ctx c).bimap := by
  rw [ctx_setCtx]
  split
  · next h => rw [hb, h.1]
  · rfl

theorem ctx_newCtx (s : PState) (c : ℕ) :
    ({ s with ctxs := s.ctxs ++ [{}] } : PState).ctx c = s.ctx c := by
  unfold ctx
  simp only
  by_cases h : c < s.ctxs.length
  · rw [List.getD_append _ _ _ _ h]
  · have h' : s.ctxs.length ≤ c := Nat.le_of_not_lt h
    rw [List.getD_append_right _ _ _ _ h', List.getD_eq_default _ _ h']
    cases c - s.ctxs.length <;> rfl

theorem operandsOf_congr {s t : PState} (h : t.operands = s.operands) :
    t.operandsOf = s.operandsOf :=
  funext fun sc => by rw [operandsOf, operandsOf, h]

theorem operandsOf_append_lt (s : PState) (ops : List ℕ) (sc : ℕ) (h : sc < s.operands.length) :
    ({ s with operands := s.operands ++ [ops] } : PState).operandsOf sc = s.operandsOf sc :=
  List.getD_append _ _ _ _ h

theorem operandsOf_append_self (s : PState) (ops : List ℕ) :
    ({ s with operands := s.operands ++ [ops] } : PState).operandsOf s.operands.length = ops := by
  unfold operandsOf
  simp only
  rw [List.getD_append_right _ _ _ _ (Nat.le_refl _), Nat.sub_self]
  rfl

/-- `_compile_circuit` + `register_compiled_circuit` for one circuit of the pipeline (skipped if
    the circuit is already compiled in this context). -/
def reg (s : PState) (c sci : ℕ) : PState :=
  if (s.compiledOf c sci).isSome then s
  else
    { s.setCtx c { s.ctx c with bimap := (s.ctx c).bimap ++ [(sci, s.nextCc)] } with
      nextCc := s.nextCc + 1, compileLog := s.compileLog ++ [(c, sci)] }

/-- `compile_pipeline`: `reg` is the body of its loop over the topological order. -/
theorem compilePipeline_eq (s : PState) (c sc : ℕ) :
    s.compilePipeline c sc =
      (pipelineOrder s.operandsOf (s.operands.length + 1) sc).foldl (fun s sci => s.reg c sci) s :=
  rfl

theorem reg_of_some (s : PState) (c sci : ℕ) {cc : ℕ} (h : s.compiledOf c sci = some cc) :
    s.reg c sci = s := by
  unfold reg; rw [if_pos (h ▸ rfl)]

theorem reg_of_none (s : PState) (c sci : ℕ) (h : s.compiledOf c sci = none) :
    s.reg c sci =
      { s.setCtx c { s.ctx c with bimap := (s.ctx c).bimap ++ [(sci, s.nextCc)] } with
        nextCc := s.nextCc + 1, compileLog := s.compileLog ++ [(c, sci)] } := by
  unfold reg; rw [if_neg (by rw [h]; exact Bool.false_ne_true)]

/-- `t` differs from `s` at most in bimaps, the id counter and the compile log. -/
structure Frame (s t : PState) : Prop where
  operands : t.operands = s.operands
  active : t.active = s.active
  ctxs_length : t.ctxs.length = s.ctxs.length
  token : ∀ c, (t.ctx c).token = (s.ctx c).token

theorem Frame.refl (s : PState) : Frame s s := ⟨rfl, rfl, rfl, fun _ => rfl⟩

theorem Frame.trans {s t u : PState} (h1 : Frame s t) (h2 : Frame t u) : Frame s u :=
  ⟨h2.operands.trans h1.operands, h2.active.trans h1.active,
    h2.ctxs_length.trans h1.ctxs_length, fun c => (h2.token c).trans (h1.token c)⟩

theorem reg_frame (s : PState) (c sci : ℕ) : Frame s (s.reg c sci) := by
  unfold reg
  split
  · exact .refl s
  · refine ⟨rfl, rfl, List.length_set, fun c' => ?_⟩
    show ((s.setCtx c _).ctx c').token = _
    rw [ctx_setCtx]
    split
    · next h => rw [h.1]
    · rfl

theorem foldl_reg_frame (c : ℕ) (l : List ℕ) (s : PState) :
    Frame s (l.foldl (fun s sci => s.reg c sci) s) :=
  List.foldlRecOn l _ (.refl s) fun t ht a _ => ht.trans (reg_frame t c a)

theorem compilePipeline_frame (s : PState) (c sc : ℕ) : Frame s (s.compilePipeline c sc) := by
  rw [compilePipeline_eq]; exact foldl_reg_frame c _ s

theorem compile_of_bad (s : PState) (c sc : ℕ) (h : sc ≥ s.operands.length ∨ c ≥ s.ctxs.length) :
    s.compile c sc = (s, .error) := by
  unfold compile; rw [if_pos h]

theorem compile_of_some (s : PState) (c sc cc : ℕ)
    (h : ¬ (sc ≥ s.operands.length ∨ c ≥ s.ctxs.length))
    (hk : s.compiledOf c sc = some cc) : s.compile c sc = (s, .cc cc) := by
  unfold compile; rw [if_neg h]; simp only [hk]

theorem compile_of_none (s : PState) (c sc : ℕ)
    (h : ¬ (sc ≥ s.operands.length ∨ c ≥ s.ctxs.length))
    (hk : s.compiledOf c sc = none) :
    s.compile c sc = (s.compilePipeline c sc,
      match (s.compilePipeline c sc).compiledOf c sc with
      | some cc => .cc cc
      | none => .error) := by
  unfold compile; rw [if_neg h]; simp only [hk]
  cases (s.compilePipeline c sc).compiledOf c sc <;> rfl

theorem compile_fst_cases (s : PState) (c sc : ℕ) :
    (s.compile c sc).1 = s ∨
      ((s.compile c sc).1 = s.compilePipeline c sc ∧
        sc < s.operands.length ∧ c < s.ctxs.length) := by
  by_cases h : sc ≥ s.operands.length ∨ c ≥ s.ctxs.length
  · rw [compile_of_bad s c sc h]; exact Or.inl rfl
  · cases hk : s.compiledOf c sc with
    | some cc => rw [compile_of_some s c sc cc h hk]; exact Or.inl rfl
    | none =>
      rw [compile_of_none s c sc h hk]
      exact Or.inr ⟨rfl, Nat.lt_of_not_le fun h' => h (Or.inl h'),
        Nat.lt_of_not_le fun h' => h (Or.inr h')⟩

theorem compile_frame (s : PState) (c sc : ℕ) : Frame s (s.compile c sc).1 := by
  rcases compile_fst_cases s c sc with h | ⟨h, -⟩ <;> rw [h]
  · exact .refl s
  · exact compilePipeline_frame s c sc

theorem step_newCircuit (s : PState) :
    s.step .newCircuit = ({ s with operands := s.operands ++ [[]] }, .sc s.operands.length) := rfl

theorem step_symOp (s : PState) (ops : List ℕ) :
    s.step (.symOp ops) =
      if ops.all (· < s.operands.length) && !ops.isEmpty then
        ({ s with operands := s.operands ++ [ops] }, .sc s.operands.length)
      else (s, .error) := rfl

theorem step_newCtx (s : PState) :
    s.step .newCtx = ({ s with ctxs := s.ctxs ++ [{}] }, .ctx s.ctxs.length) := rfl

theorem step_compile (s : PState) (c : Option ℕ) (sc : ℕ) :
    s.step (.compile c sc) = s.compile (c.getD s.active) sc := rfl

theorem step_ccOp (s : PState) (c : Option ℕ) (ccs : List ℕ) :
    s.step (.ccOp c ccs) =
      if c.getD s.active ≥ s.ctxs.length ∨ ccs.isEmpty then (s, .error)
      else
        match ccs.mapM (s.symbolicOf (c.getD s.active)) with
        | none => (s, .error)
        | some scs =>
            ({ s with operands := s.operands ++ [scs] } : PState).compile (c.getD s.active)
              s.operands.length := rfl

theorem step_enter (s : PState) (c : ℕ) :
    s.step (.enter c) =
      if c ≥ s.ctxs.length ∨ (s.ctx c).token.isSome then (s, .error)
      else ({ s.setCtx c { s.ctx c with token := some s.active } with active := c }, .unit) := rfl

theorem step_exit (s : PState) (c : ℕ) :
    s.step (.exit c) =
      match (s.ctx c).token with
      | some prev => ({ s.setCtx c { s.ctx c with token := none } with active := prev }, .unit)
      | none => (s, .error) := rfl

theorem step_ccOp_ok (s : PState) (c : ℕ) (ccs : List ℕ) (hc : c < s.ctxs.length)
    (hne : ccs ≠ []) :
    s.step (.ccOp (some c) ccs) =
      match ccs.mapM (s.symbolicOf c) with
      | none => (s, .error)
      | some scs =>
          ({ s with operands := s.operands ++ [scs] } : PState).compile c s.operands.length :=
  if_neg fun h => h.elim (Nat.not_le_of_lt hc) fun h => hne (List.isEmpty_iff.mp h)

theorem run_fst (s : PState) (ops : List POp') :
    (s.run ops).1 = ops.foldl (fun s op => (s.step op).1) s :=
  (List.foldl_hom Prod.fst fun _ _ => rfl).symm

theorem run_nil (s : PState) : s.run [] = (s, []) := rfl

theorem run_cons_fst (s : PState) (op : POp') (ops : List POp') :
    (s.run (op :: ops)).1 = ((s.step op).1.run ops).1 := by
  rw [run_fst, run_fst, List.foldl_cons]

theorem run_append_fst (s : PState) (ops₁ ops₂ : List POp') :
    (s.run (ops₁ ++ ops₂)).1 = ((s.run ops₁).1.run ops₂).1 := by
  rw [run_fst, run_fst, run_fst, List.foldl_append]

theorem run_snoc (s : PState) (ops : List POp') (op : POp') :
    s.run (ops ++ [op]) =
      (((s.run ops).1.step op).1, (s.run ops).2 ++ [((s.run ops).1.step op).2]) := by
  rw [run, List.foldl_append]; rfl

theorem run_snoc_fst (s : PState) (ops : List POp') (op : POp') :
    (s.run (ops ++ [op])).1 = ((s.run ops).1.step op).1 :=
  congrArg Prod.fst (run_snoc s ops op)

theorem run_ind {P : PState → Prop} (ops : List POp')
    (hP : ∀ s, ∀ op ∈ ops, P s → P (s.step op).1) {s : PState} (h : P s) : P (s.run ops).1 :=
  run_fst s ops ▸ List.foldlRecOn ops _ h fun s hs op ho => hP s op ho hs

theorem compiledOf_isSome_iff (s : PState) (c sc : ℕ) :
    (s.compiledOf c sc).isSome ↔ sc ∈ (s.ctx c).bimap.map (·.1) :=
  alookup_isSome_iff _ _

theorem inv_init : (({} : PState)).Inv := by
  have hb : ∀ c, (({} : PState).ctx c).bimap = [] := fun c => by
    cases c with
    | zero => rfl
    | succ c => rfl
  refine ⟨fun c => ?_, fun c => ?_, fun c p hp => ?_, fun c _ _ p hp => ?_, fun c p hp => ?_,
    fun _ h => absurd h (Nat.not_lt_zero _), fun c sc => ?_, List.nodup_nil⟩
  · rw [hb]; exact List.nodup_nil
  · rw [hb]; exact List.nodup_nil
  · rw [hb] at hp; cases hp
  · rw [hb] at hp; cases hp
  · rw [hb] at hp; cases hp
  · rw [compiledOf_isSome_iff, hb]; exact ⟨nofun, nofun⟩

theorem reg_bimap (s : PState) (c sci : ℕ) (hc : c < s.ctxs.length)
    (hk : s.compiledOf c sci = none) (c' : ℕ) :
    ((s.reg c sci).ctx c').bimap =
      if c' = c then (s.ctx c).bimap ++ [(sci, s.nextCc)] else (s.ctx c').bimap := by
  rw [reg_of_none s c sci hk]
  show ((s.setCtx c _).ctx c').bimap = _
  rw [ctx_setCtx]
  by_cases h : c' = c
  · rw [if_pos ⟨h, hc⟩, if_pos h]
  · rw [if_neg (fun h' => h h'.1), if_neg h]

theorem Inv.reg {s : PState} (h : s.Inv) (c sci : ℕ) (hc : c < s.ctxs.length)
    (hsci : sci < s.operands.length) : (s.reg c sci).Inv := by
  cases hk : s.compiledOf c sci with
  | some cc => rw [reg_of_some s c sci hk]; exact h
  | none =>
    have hfresh : sci ∉ (s.ctx c).bimap.map (·.1) := by
      rw [← compiledOf_isSome_iff, hk]; exact Bool.false_ne_true
    have hb := reg_bimap s c sci hc hk
    have hn : (s.reg c sci).nextCc = s.nextCc + 1 := by rw [reg_of_none s c sci hk]
    have hl : (s.reg c sci).compileLog = s.compileLog ++ [(c, sci)] := by
      rw [reg_of_none s c sci hk]
    have ho := (reg_frame s c sci).operands
    have hmem : ∀ c' p, p ∈ ((s.reg c sci).ctx c').bimap →
        p ∈ (s.ctx c').bimap ∨ (c' = c ∧ p = (sci, s.nextCc)) := by
      intro c' p hp
      rw [hb] at hp
      split at hp
      · next e =>
        rw [e]
        exact (List.mem_append.mp hp).imp_right fun h' => ⟨rfl, List.mem_singleton.mp h'⟩
      · exact Or.inl hp
    refine ⟨fun c' => ?_, fun c' => ?_, fun c' p hp => ?_, fun c₁ c₂ hne p hp p' hp' => ?_,
      fun c' p hp => ?_, ?_, fun c' sc' => ?_, ?_⟩
    · rw [hb]; split
      · rw [List.map_append]; exact nodup_snoc (h.left_nodup c) hfresh
      · exact h.left_nodup c'
    · rw [hb]; split
      · exact nodup_map_snoc (h.right_nodup c) fun p hp => Nat.ne_of_lt (h.cc_lt c p hp)
      · exact h.right_nodup c'
    · rw [hn]
      rcases hmem c' p hp with hp | ⟨-, rfl⟩
      · exact Nat.lt_succ_of_lt (h.cc_lt c' p hp)
      · exact Nat.lt_succ_self _
    · rcases hmem c₁ p hp with h1 | ⟨rfl, rfl⟩
      · rcases hmem c₂ p' hp' with h2 | ⟨rfl, rfl⟩
        · exact h.cc_disjoint c₁ c₂ hne p h1 p' h2
        · exact Nat.ne_of_lt (h.cc_lt c₁ p h1)
      · rcases hmem c₂ p' hp' with h2 | ⟨e, -⟩
        · exact Nat.ne_of_gt (h.cc_lt c₂ p' h2)
        · exact absurd e.symm hne
    · rw [ho]
      rcases hmem c' p hp with hp | ⟨-, rfl⟩
      · exact h.sc_lt c' p hp
      · exact hsci
    · intro sc hsc o ho'
      rw [ho] at hsc
      rw [operandsOf_congr ho] at ho'
      exact h.dag sc hsc o ho'
    · rw [hl, compiledOf_isSome_iff, hb, List.mem_append, List.mem_singleton, h.log_iff,
        compiledOf_isSome_iff]
      by_cases e : c' = c
      · subst e
        simp only [if_true, List.map_append, List.map_cons, List.map_nil, List.mem_append,
          List.mem_singleton, Prod.mk.injEq, true_and]
      · simp only [e, if_false, Prod.mk.injEq, false_and, or_false]
    · rw [hl]
      refine nodup_snoc h.log_nodup fun hx => ?_
      rw [h.log_iff, hk] at hx
      cases hx

theorem Inv.log_lt {s : PState} (h : s.Inv) {c sc : ℕ} (hm : (c, sc) ∈ s.compileLog) :
    sc < s.operands.length := by
  obtain ⟨p, hp, rfl⟩ :=
    List.mem_map.mp ((compiledOf_isSome_iff s c sc).mp ((h.log_iff c sc).mp hm))
  exact h.sc_lt c p hp

theorem Inv.mapM_symbolicOf_lt {s : PState} (h : s.Inv) {c : ℕ} {ccs scs : List ℕ}
    (hk : ccs.mapM (s.symbolicOf c) = some scs) : ∀ o ∈ scs, o < s.operands.length := by
  intro o ho
  obtain ⟨_, _, hx⟩ := mapM_option_mem _ ccs scs hk o ho
  obtain ⟨p, hp, rfl⟩ := Option.map_eq_some_iff.mp hx
  exact h.sc_lt c p (List.mem_of_find?_eq_some hp)

theorem logTopo_init : (({} : PState)).LogTopo := by
  intro l1 c sc l2 he
  cases l1 <;> cases he

theorem logTopo_snoc {s t : PState} {c sc : ℕ} (hlog : t.compileLog = s.compileLog ++ [(c, sc)])
    (hop : t.operands = s.operands) :
    t.LogTopo ↔ s.LogTopo ∧ ∀ o ∈ s.operandsOf sc, (c, o) ∈ s.compileLog := by
  unfold LogTopo
  rw [hlog, operandsOf_congr hop]
  -- `LogTopo` quantifies over the two components of a log entry, `forall_split_snoc` over the entry
  have hsplit := forall_split_snoc (l := s.compileLog) (a := (c, sc))
    (P := fun l1 p => ∀ o ∈ s.operandsOf p.2, (p.1, o) ∈ l1)
  constructor
  · intro h
    obtain ⟨h1, h2⟩ := hsplit.mp fun l1 p l2 => h l1 p.1 p.2 l2
    exact ⟨fun l1 c sc l2 => h1 l1 (c, sc) l2, h2⟩
  · rintro ⟨h1, h2⟩ l1 c' sc' l2
    exact hsplit.mpr ⟨fun l1 p l2 => h1 l1 p.1 p.2 l2, h2⟩ l1 (c', sc') l2

theorem LogTopo.reg {s : PState} (ht : s.LogTopo) (c sci : ℕ)
    (hops : ∀ o ∈ s.operandsOf sci, (c, o) ∈ s.compileLog) : (s.reg c sci).LogTopo := by
  cases hk : s.compiledOf c sci with
  | some cc => rw [reg_of_some s c sci hk]; exact ht
  | none =>
    have hlog : (s.reg c sci).compileLog = s.compileLog ++ [(c, sci)] := by
      rw [reg_of_none s c sci hk]
    exact (logTopo_snoc hlog (reg_frame s c sci).operands).mpr ⟨ht, hops⟩

/-- `t` satisfies the invariant, and `LogTopo` if `s` does: what every operation establishes for
    the state `t` it leads to from a state `s` satisfying the invariant. -/
structure Inherits (s t : PState) : Prop where
  inv : t.Inv
  topo : s.LogTopo → t.LogTopo

theorem Inherits.refl {s : PState} (h : s.Inv) : Inherits s s := ⟨h, id⟩

theorem Inherits.trans {s t u : PState} (h1 : Inherits s t) (h2 : Inherits t u) : Inherits s u :=
  ⟨h2.inv, fun hs => h2.topo (h1.topo hs)⟩

/-- `LogTopo` survives because logged circuits are circuits of `s` (`Inv.log_lt`), whose operands
    are unchanged. -/
theorem Inv.extend {s t : PState} (h : s.Inv) (hctx : ∀ c, (t.ctx c).bimap = (s.ctx c).bimap)
    (hn : t.nextCc = s.nextCc) (hlog : t.compileLog = s.compileLog)
    (hlen : s.operands.length ≤ t.operands.length)
    (hold : ∀ sc < s.operands.length, t.operandsOf sc = s.operandsOf sc)
    (hnew : ∀ sc, s.operands.length ≤ sc → sc < t.operands.length → ∀ o ∈ t.operandsOf sc, o < sc) :
    Inherits s t := by
  refine ⟨⟨fun c => ?_, fun c => ?_, fun c p hp => ?_, fun c c' hne p hp p' hp' => ?_,
    fun c p hp => ?_, fun sc hsc o ho => ?_, fun c sc => ?_, hlog ▸ h.log_nodup⟩,
    fun ht l1 c sc l2 he o ho => ?_⟩
  · rw [hctx]; exact h.left_nodup c
  · rw [hctx]; exact h.right_nodup c
  · rw [hctx] at hp; rw [hn]; exact h.cc_lt c p hp
  · rw [hctx] at hp hp'; exact h.cc_disjoint c c' hne p hp p' hp'
  · rw [hctx] at hp; exact Nat.lt_of_lt_of_le (h.sc_lt c p hp) hlen
  · by_cases hs : sc < s.operands.length
    · exact h.dag sc hs o (hold sc hs ▸ ho)
    · exact hnew sc (Nat.le_of_not_lt hs) hsc o ho
  · rw [hlog, compiledOf, hctx]; exact h.log_iff c sc
  · rw [hlog] at he
    rw [hold sc (h.log_lt (he ▸ List.mem_append_right _ List.mem_cons_self))] at ho
    exact ht l1 c sc l2 he o ho

theorem Inv.same {s t : PState} (h : s.Inv) (hctx : ∀ c, (t.ctx c).bimap = (s.ctx c).bimap)
    (hn : t.nextCc = s.nextCc) (hlog : t.compileLog = s.compileLog)
    (hop : t.operands = s.operands) : Inherits s t :=
  h.extend hctx hn hlog (Nat.le_of_eq (congrArg _ hop.symm))
    (fun _ _ => by rw [operandsOf_congr hop])
    fun _ h1 h2 => absurd (hop ▸ h2) (Nat.not_lt_of_le h1)

theorem Inv.append_operands {s : PState} (h : s.Inv) (ops : List ℕ)
    (hops : ∀ o ∈ ops, o < s.operands.length) :
    Inherits s { s with operands := s.operands ++ [ops] } := by
  refine h.extend (fun _ => rfl) rfl rfl (List.length_append ▸ Nat.le_add_right _ _)
    (operandsOf_append_lt s ops) fun sc h1 h2 o ho => ?_
  rw [List.length_append, List.length_singleton] at h2
  obtain rfl : sc = s.operands.length := Nat.le_antisymm (Nat.le_of_lt_succ h2) h1
  rw [operandsOf_append_self] at ho
  exact hops o ho

theorem reg_log_subset (s : PState) (c sci : ℕ) : s.compileLog ⊆ (s.reg c sci).compileLog := by
  unfold reg; split
  · exact fun _ h => h
  · exact List.subset_append_left _ _

theorem Inv.reg_log_mem {s : PState} (h : s.Inv) (c sci : ℕ) :
    (c, sci) ∈ (s.reg c sci).compileLog := by
  cases hk : s.compiledOf c sci with
  | some cc =>
    rw [reg_of_some s c sci hk]
    exact (h.log_iff c sci).mpr (by rw [hk]; rfl)
  | none => rw [reg_of_none s c sci hk]; exact List.mem_append_right _ List.mem_cons_self

/-- The second conjunct (everything in `l` is logged under `c`) is carried so that, when the last
    circuit `a` is registered, its operands — all earlier in `l`, by `Topo` — are in the log
    already: that is what `LogTopo.reg` asks for. -/
theorem foldl_reg_spec {s : PState} (h : s.Inv) {c : ℕ} (hc : c < s.ctxs.length) (l : List ℕ) :
    (∀ x ∈ l, x < s.operands.length) → Topo s.operandsOf l →
    Inherits s (l.foldl (fun s sci => s.reg c sci) s) ∧
    ∀ x ∈ l, (c, x) ∈ (l.foldl (fun s sci => s.reg c sci) s).compileLog := by
  induction l using List.reverseRecOn with
  | nil => exact fun _ _ => ⟨.refl h, nofun⟩
  | append_singleton l a ih =>
    intro hl htopo
    obtain ⟨htl, ha⟩ := topo_snoc.mp htopo
    obtain ⟨i1, i2⟩ := ih (fun x hx => hl x (List.mem_append_left _ hx)) htl
    have hf := foldl_reg_frame c l s
    rw [List.foldl_append, List.foldl_cons, List.foldl_nil]
    -- `t`: the state after registering `l`; the registrations kept circuits and contexts (`hf`)
    generalize l.foldl (fun s sci => s.reg c sci) s = t at i1 i2 hf
    have hInv : (t.reg c a).Inv :=
      i1.inv.reg c a (hf.ctxs_length.symm ▸ hc)
        (hf.operands.symm ▸ hl a (List.mem_append_right _ List.mem_cons_self))
    have hops : ∀ o ∈ t.operandsOf a, (c, o) ∈ t.compileLog := fun o ho =>
      i2 o (ha o (operandsOf_congr hf.operands ▸ ho))
    refine ⟨⟨hInv, fun hs => (i1.topo hs).reg c a hops⟩, fun x hx => ?_⟩
    rcases List.mem_append.mp hx with hx | hx
    · exact reg_log_subset t c a (i2 x hx)
    · rw [List.mem_singleton.mp hx]; exact i1.inv.reg_log_mem c a

theorem Inv.compilePipeline {s : PState} (h : s.Inv) (c sc : ℕ) (hc : c < s.ctxs.length)
    (hsc : sc < s.operands.length) :
    Inherits s (s.compilePipeline c sc) ∧ (c, sc) ∈ (s.compilePipeline c sc).compileLog := by
  obtain ⟨hroot, htopo, _, hlt, _⟩ := pipelineOrder_spec s.operandsOf s.operands.length h.dag sc hsc
  rw [compilePipeline_eq]
  exact (foldl_reg_spec h hc _ hlt htopo).imp_right (· sc hroot)

theorem Inv.compile_spec {s : PState} (h : s.Inv) (c sc : ℕ) : Inherits s (s.compile c sc).1 := by
  rcases compile_fst_cases s c sc with e | ⟨e, hsc, hc⟩ <;> rw [e]
  · exact .refl h
  · exact (h.compilePipeline c sc hc hsc).1

theorem Inv.compile {s : PState} (h : s.Inv) (c sc : ℕ) : (s.compile c sc).1.Inv :=
  (h.compile_spec c sc).inv

theorem LogTopo.compile {s : PState} (h : s.Inv) (ht : s.LogTopo) (c sc : ℕ) :
    (s.compile c sc).1.LogTopo :=
  (h.compile_spec c sc).topo ht

theorem Inv.step_spec {s : PState} (h : s.Inv) (op : POp') : Inherits s (s.step op).1 := by
  cases op with
  | newCircuit => exact h.append_operands [] nofun
  | symOp ops =>
    rw [step_symOp]
    split
    · next hv =>
      rw [Bool.and_eq_true, List.all_eq_true] at hv
      exact h.append_operands ops fun o ho => of_decide_eq_true (hv.1 o ho)
    · exact .refl h
  | newCtx => exact h.same (fun c => congrArg _ (ctx_newCtx s c)) rfl rfl rfl
  | compile c sc => exact h.compile_spec _ sc
  | ccOp c ccs =>
    rw [step_ccOp]
    split
    · exact .refl h
    · cases hk : ccs.mapM (s.symbolicOf (c.getD s.active)) with
      | none => exact .refl h
      | some scs =>
        have := h.append_operands scs (h.mapM_symbolicOf_lt hk)
        exact this.trans (this.inv.compile_spec _ _)
  | enter c' =>
    rw [step_enter]
    split
    · exact .refl h
    · exact h.same (fun c => ctx_setCtx_bimap s c c' _ rfl) rfl rfl rfl
  | exit c' =>
    rw [step_exit]
    cases (s.ctx c').token with
    | some prev => exact h.same (fun c => ctx_setCtx_bimap s c c' _ rfl) rfl rfl rfl
    | none => exact .refl h
  | _ => exact .refl h

theorem Inv.run_spec {s : PState} (h : s.Inv) (ops : List POp') : Inherits s (s.run ops).1 :=
  run_ind ops (fun _ op _ ht => ht.trans (ht.inv.step_spec op)) (.refl h)

theorem Inv.run {s : PState} (h : s.Inv) (ops : List POp') : (s.run ops).1.Inv :=
  (h.run_spec ops).inv

theorem LogTopo.run {s : PState} (h : s.Inv) (ht : s.LogTopo) (ops : List POp') :
    (s.run ops).1.LogTopo :=
  (h.run_spec ops).topo ht

theorem Inv.symbolicOf_eq_some {s : PState} (h : s.Inv) (c cc sc : ℕ) :
    s.symbolicOf c cc = some sc ↔ (sc, cc) ∈ (s.ctx c).bimap := by
  rw [symbolicOf, Option.map_eq_some_iff]
  simp only [find?_key_eq_some_iff (h.right_nodup c), and_right_comm]
  exact exists_mem_fst_snd

theorem Inv.bimap_bijection {s : PState} (h : s.Inv) (c sc cc : ℕ) :
    s.compiledOf c sc = some cc ↔ s.symbolicOf c cc = some sc := by
  rw [h.symbolicOf_eq_some]
  exact alookup_eq_some_iff _ (h.left_nodup c) sc cc

theorem Inv.compile_registers {s : PState} (h : s.Inv) (c sc : ℕ) (hsc : sc < s.operands.length)
    (hc : c < s.ctxs.length) :
    ∃ cc, (s.compile c sc).2 = .cc cc ∧ (s.compile c sc).1.compiledOf c sc = some cc := by
  have hg : ¬ (sc ≥ s.operands.length ∨ c ≥ s.ctxs.length) :=
    fun h => h.elim (Nat.not_le_of_lt hsc) (Nat.not_le_of_lt hc)
  cases hk : s.compiledOf c sc with
  | some cc => rw [compile_of_some s c sc cc hg hk]; exact ⟨cc, rfl, hk⟩
  | none =>
    rw [compile_of_none s c sc hg hk]
    obtain ⟨i1, i2⟩ := h.compilePipeline c sc hc hsc
    obtain ⟨cc, hcc⟩ := Option.isSome_iff_exists.mp ((i1.inv.log_iff c sc).mp i2)
    exact ⟨cc, by rw [hcc], hcc⟩

theorem compile_idempotent (s : PState) (c sc cc : ℕ) (hr : (s.compile c sc).2 = .cc cc) :
    (s.compile c sc).1.compile c sc = ((s.compile c sc).1, .cc cc) := by
  by_cases hg : sc ≥ s.operands.length ∨ c ≥ s.ctxs.length
  · rw [compile_of_bad s c sc hg] at hr; cases hr
  · cases hk : s.compiledOf c sc with
    | some cc' =>
      rw [compile_of_some s c sc cc' hg hk] at hr ⊢
      cases hr
      exact compile_of_some s c sc cc hg hk
    | none =>
      have hf := compilePipeline_frame s c sc
      rw [compile_of_none s c sc hg hk] at hr ⊢
      cases hk' : (s.compilePipeline c sc).compiledOf c sc with
      | none => rw [hk'] at hr; cases hr
      | some cc' =>
        rw [hk'] at hr; cases hr
        exact compile_of_some _ c sc cc (by rw [hf.operands, hf.ctxs_length]; exact hg) hk'

theorem Inv.operands_compiled {s : PState} (h : s.Inv) (ht : s.LogTopo) (c sc : ℕ)
    (hk : (s.compiledOf c sc).isSome) : ∀ o ∈ s.operandsOf sc, (s.compiledOf c o).isSome := by
  intro o ho
  obtain ⟨l1, l2, he⟩ := List.append_of_mem ((h.log_iff c sc).mpr hk)
  exact (h.log_iff c o).mp (he ▸ List.mem_append_left _ (ht l1 c sc l2 he o ho))

theorem step_keeps (s : PState) (op : POp') :
    (∃ c, op = .enter c ∨ op = .exit c) ∨
      ((s.step op).1.active = s.active ∧ ∀ c, ((s.step op).1.ctx c).token = (s.ctx c).token) := by
  cases op with
  | symOp ops => rw [step_symOp]; split <;> exact .inr ⟨rfl, fun _ => rfl⟩
  | newCtx => exact .inr ⟨rfl, fun c => congrArg _ (ctx_newCtx s c)⟩
  | compile c' sc => exact .inr ⟨(compile_frame s _ sc).active, (compile_frame s _ sc).token⟩
  | ccOp c' ccs =>
    rw [step_ccOp]
    split
    · exact .inr ⟨rfl, fun _ => rfl⟩
    · split
      · exact .inr ⟨rfl, fun _ => rfl⟩
      · exact .inr ⟨(compile_frame _ _ _).active, (compile_frame _ _ _).token⟩
  | enter c' => exact .inl ⟨c', .inl rfl⟩
  | exit c' => exact .inl ⟨c', .inr rfl⟩
  | _ => exact .inr ⟨rfl, fun _ => rfl⟩

theorem step_token (s : PState) (op : POp') (c : ℕ) (h1 : op ≠ .enter c) (h2 : op ≠ .exit c) :
    ((s.step op).1.ctx c).token = (s.ctx c).token := by
  rcases step_keeps s op with ⟨c', rfl | rfl⟩ | h
  · -- `enter c'` with `c' ≠ c`: the context that is set is not `c`
    -- (`{ s.setCtx c' _ with active := _ }.ctx c` is `(s.setCtx c' _).ctx c` by definition)
    have hne : c ≠ c' := fun e => h1 (e ▸ rfl)
    rw [step_enter]
    split
    · rfl
    · exact congrArg _ ((ctx_setCtx s c c' _).trans (if_neg fun e => hne e.1))
  · have hne : c ≠ c' := fun e => h2 (e ▸ rfl)
    rw [step_exit]
    split
    · exact congrArg _ ((ctx_setCtx s c c' _).trans (if_neg fun e => hne e.1))
    · rfl
  · exact h.2 c

theorem run_token (s : PState) (ops : List POp') (c : ℕ)
    (h : ∀ op ∈ ops, op ≠ .enter c ∧ op ≠ .exit c) :
    ((s.run ops).1.ctx c).token = (s.ctx c).token :=
  run_ind (P := fun t => (t.ctx c).token = (s.ctx c).token) ops
    (fun t op ho ht => (step_token t op c (h op ho).1 (h op ho).2).trans ht) rfl

theorem enter_spec (s : PState) (c : ℕ) (hfree : (s.ctx c).token = none) :
    ((s.step (.enter c)).1.ctx c).token = (if c < s.ctxs.length then some s.active else none) ∧
      (s.step (.enter c)).1.active = if c < s.ctxs.length then c else s.active := by
  rw [step_enter]
  by_cases hc : c < s.ctxs.length
  · have hguard : ¬ (c ≥ s.ctxs.length ∨ (s.ctx c).token.isSome) :=
      hfree ▸ fun h => h.elim (Nat.not_le_of_lt hc) Bool.false_ne_true
    rw [if_neg hguard, if_pos hc, if_pos hc]
    exact ⟨congrArg _ ((ctx_setCtx s c c _).trans (if_pos ⟨rfl, hc⟩)), rfl⟩
  · rw [if_pos (Or.inl (Nat.le_of_not_lt hc)), if_neg hc, if_neg hc]
    exact ⟨hfree, rfl⟩

theorem exit_spec (s : PState) (c : ℕ) :
    ((s.step (.exit c)).1.ctx c).token = none ∧
      (s.step (.exit c)).1.active = ((s.ctx c).token).getD s.active := by
  rw [step_exit]
  cases h : (s.ctx c).token with
  | none => exact ⟨h, rfl⟩
  | some prev =>
    have hc : c < s.ctxs.length := Nat.lt_of_not_le fun hc => by
      rw [ctx, List.getD_eq_default _ _ hc] at h; cases h
    exact ⟨congrArg _ ((ctx_setCtx s c c _).trans (if_pos ⟨rfl, hc⟩)), rfl⟩

/-- `exit c` in a state `t` reached from `enter c` (at `s`, with `c` free) by steps that kept the
    token of `c`: the context active at `s` is active again and `c` is free.  If the context
    object does not exist, `enter` and `exit` are both refused, and `t` must have kept the active
    context. -/
theorem exit_enter (s : PState) (c : ℕ) (hfree : (s.ctx c).token = none) (t : PState)
    (htok : (t.ctx c).token = ((s.step (.enter c)).1.ctx c).token)
    (hact : ¬ c < s.ctxs.length → t.active = s.active) :
    (t.step (.exit c)).1.active = s.active ∧ ((t.step (.exit c)).1.ctx c).token = none := by
  refine ⟨?_, (exit_spec t c).1⟩
  rw [(exit_spec t c).2, htok, (enter_spec s c hfree).1]
  split
  · rfl
  · next hc => exact hact hc

theorem WB.run_restores {busy : List ℕ} {ops : List POp'} (hwb : WB busy ops) :
    ∀ s : PState, (∀ c, c ∉ busy → (s.ctx c).token = none) →
      (s.run ops).1.active = s.active ∧ ∀ c, ((s.run ops).1.ctx c).token = (s.ctx c).token := by
  induction hwb with
  | nil busy => intro s _; exact ⟨rfl, fun _ => rfl⟩
  | op busy op rest h1 h2 _ ih =>
    intro s hfree
    obtain ⟨hact, htok⟩ := (step_keeps s op).resolve_left fun ⟨c, h⟩ => h.elim (h1 c) (h2 c)
    obtain ⟨i1, i2⟩ := ih (s.step op).1 (fun c hc => by rw [htok]; exact hfree c hc)
    rw [run_cons_fst]
    exact ⟨i1.trans hact, fun c => (i2 c).trans (htok c)⟩
  | block busy c body rest hcb _ _ ihb ihr =>
    -- the body runs from the entered state with `c` busy (`ihb`); `exit c` restores
    -- (`exit_enter`), so the rest runs from a state with the tokens of `s` (`hall`, `ihr`)
    intro s hfree
    rw [run_cons_fst, run_append_fst, run_cons_fst]
    have hent : ∀ c', c' ≠ c → ((s.step (.enter c)).1.ctx c').token = (s.ctx c').token :=
      fun c' hne => step_token s (.enter c) c' (fun e => hne (by cases e; rfl)) nofun
    obtain ⟨b1, b2⟩ := ihb (s.step (.enter c)).1 fun c' hc' => by
      rw [List.mem_cons, not_or] at hc'
      rw [hent c' hc'.1]; exact hfree c' hc'.2
    obtain ⟨x1, x2⟩ := exit_enter s c (hfree c hcb) _ (b2 c)
      fun hc => b1.trans ((enter_spec s c (hfree c hcb)).2.trans (if_neg hc))
    have hall : ∀ c', (((((s.step (.enter c)).1.run body).1).step (.exit c)).1.ctx c').token =
        (s.ctx c').token := fun c' => by
      by_cases hne : c' = c
      · rw [hne, x2, hfree c hcb]
      · rw [step_token _ (.exit c) c' nofun (fun e => hne (by cases e; rfl)), b2, hent c' hne]
    obtain ⟨r1, r2⟩ := ihr _ (fun c' hc' => by rw [hall]; exact hfree c' hc')
    exact ⟨r1.trans x1, fun c' => (r2 c').trans (hall c')⟩

theorem WB.exit_restores {busy : List ℕ} {body : List POp'} {c : ℕ} (hwb : WB (c :: busy) body)
    (s : PState) (hc : c < s.ctxs.length) (hfree : ∀ c', c' ∉ busy → (s.ctx c').token = none)
    (hcb : c ∉ busy) :
    ((s.step (.enter c)).1.run body).1.active = c ∧
      (((s.step (.enter c)).1.run body).1.step (.exit c)).1.active = s.active := by
  obtain ⟨b1, b2⟩ := hwb.run_restores (s.step (.enter c)).1 fun c' hc' => by
    rw [List.mem_cons, not_or] at hc'
    rw [step_token s (.enter c) c' (fun e => hc'.1 (by cases e; rfl)) nofun]
    exact hfree c' hc'.2
  exact ⟨b1.trans ((enter_spec s c (hfree c hcb)).2.trans (if_pos hc)),
    (exit_enter s c (hfree c hcb) _ (b2 c) fun h => absurd hc h).1⟩

end PState

end Cirkit
