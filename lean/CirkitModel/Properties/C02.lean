/-
  C02 — folding a computational graph preserves its outputs; address-book gathers return the
  slices they name; the layer/parameter optimisation rewrites are identities.

  Theorems are about the model `CirkitModel.Model.Fold`, which mirrors
  `cirkit/backend/torch/graph/folding.py` and the evaluation loop of
  `cirkit/backend/torch/graph/modules.py`.  Slice-wise independence of a folded torch module is
  what `evalFolded` encodes.

  The soundness theorems hold for ANY module semantics and any certificate accepted by
  `FoldCert.valid`.  The model of `build_folded_graph` / `group_foldable_modules` (`buildFolded`,
  `groupFrontier`), run on ANY layer-wise topological ordering (`Layered`), emits a certificate
  that `FoldCert.valid` accepts — so folding with the modelled algorithm is sound unconditionally,
  and `valid` on the REAL certificate (checked on every run) is the only per-run obligation.

  Proofs: `CirkitModel.Proofs.Fold` (soundness), `CirkitModel.Proofs.FoldBuild` (the builder).
-/
import Mathlib.Analysis.SpecialFunctions.Log.Basic
import CirkitModel.Proofs.Index
import CirkitModel.Proofs.Fold
import CirkitModel.Proofs.FoldBuild

namespace Cirkit.C02

/-- Folding is sound: for every module semantics, evaluating the folded graph and gathering
    `out_fold_idx` gives exactly the unfolded outputs. -/
theorem fold_sound {α : Type} (g : UGraph) (c : FoldCert) (sem : ℕ → List α → α) (dflt : α)
    (htopo : g.Topo) (hv : c.valid g = true) :
    gatherOutputs c (evalFolded c sem dflt) dflt
      = g.outputs.map (fun o => (evalUnfolded g sem dflt).getD o dflt) :=
  (FoldCert.Addresses.of_valid hv).outputs htopo sem dflt

/-- Non-vacuity: modules 0 and 1 are inputs with the same key (folded into one group), module 2
    reads both, module 3 reads module 2 and is the output. -/
example :
    let g : UGraph :=
      { n := 4
        ins := fun m => if m = 2 then [0, 1] else if m = 3 then [2] else []
        key := fun m => if m ≤ 1 then 0 else m
        outputs := [3] }
    let c : FoldCert :=
      { groups := [[0, 1], [2], [3]]
        inIdx := [[[], []], [[(0, 0), (0, 1)]], [[(1, 0)]]]
        outIdx := [(2, 0)] }
    g.Topo ∧ c.valid g = true := by
  unfold UGraph.Topo
  decide +kernel

/-- The slice invariant behind `fold_sound`: slice `f` of folded module `gi` is the value of
    the `f`-th member of group `gi`. -/
theorem fold_sound_slices {α : Type} (g : UGraph) (c : FoldCert) (sem : ℕ → List α → α)
    (dflt : α) (htopo : g.Topo) (hv : c.valid g = true)
    (gi : ℕ) (hgi : gi < c.groups.length) (f : ℕ) (hf : f < (c.groups.getD gi []).length) :
    ((evalFolded c sem dflt).getD gi []).getD f dflt
      = (evalUnfolded g sem dflt).getD ((c.groups.getD gi []).getD f 0) dflt :=
  (FoldCert.Addresses.of_valid hv).slices htopo sem dflt (gi, f) ⟨hgi, hf⟩

/-- The model of `build_folded_graph` always emits a valid certificate: for every graph and every
    layer-wise topological ordering of it (no bound on the number of modules, frontiers, keys or
    arities), `FoldCert.valid` accepts `buildFolded g frontiers`. -/
theorem buildFolded_valid (g : UGraph) (frontiers : List (List ℕ)) (h : Layered g frontiers) :
    (buildFolded g frontiers).valid g = true := by
  rw [buildFolded_eq g frontiers h.homogeneous]
  exact certOf_valid (h.flatMap (groupFrontier_perm g.key)) h.homogeneous

theorem layeredB_layered (g : UGraph) (frontiers : List (List ℕ))
    (h : layeredB g frontiers = true) : Layered g frontiers := by
  simp only [layeredB, Bool.and_eq_true, List.all_eq_true, List.mem_range, Bool.or_eq_true,
    bne_iff_ne, beq_iff_eq, decide_eq_true_eq, List.contains_iff_mem] at h
  obtain ⟨⟨⟨hp, he⟩, ha⟩, ho⟩ := h
  exact ⟨partitions_iff_perm.mp hp, he, fun m hm m' hm' hkey =>
    (ha m hm m' hm').resolve_left (not_not_intro hkey), ho⟩

/-- `buildFolded_valid` with the executable hypothesis: whenever the check `layeredB` that the
    driver runs on the ordering handed to the real `build_folded_graph` answers `true`, the
    model's certificate for that ordering is valid. -/
theorem buildFolded_valid_of_check (g : UGraph) (frontiers : List (List ℕ))
    (h : layeredB g frontiers = true) : (buildFolded g frontiers).valid g = true :=
  buildFolded_valid g frontiers (layeredB_layered g frontiers h)

/-- Hence folding with the modelled algorithm preserves the outputs, for every module semantics. -/
theorem buildFolded_sound {α : Type} (g : UGraph) (frontiers : List (List ℕ))
    (sem : ℕ → List α → α) (dflt : α) (htopo : g.Topo) (h : Layered g frontiers) :
    gatherOutputs (buildFolded g frontiers) (evalFolded (buildFolded g frontiers) sem dflt) dflt
      = g.outputs.map (fun o => (evalUnfolded g sem dflt).getD o dflt) :=
  fold_sound g _ sem dflt htopo (buildFolded_valid g frontiers h)

/-- Non-vacuity: the graph of the example above with its layer-wise ordering is `Layered`, and the
    model builds exactly the certificate used there. -/
example :
    let g : UGraph :=
      { n := 4
        ins := fun m => if m = 2 then [0, 1] else if m = 3 then [2] else []
        key := fun m => if m ≤ 1 then 0 else m
        outputs := [3] }
    Layered g [[0, 1], [2], [3]] ∧
      (buildFolded g [[0, 1], [2], [3]]).groups = [[0, 1], [2], [3]] ∧
      (buildFolded g [[0, 1], [2], [3]]).inIdx = [[[], []], [[(0, 0), (0, 1)]], [[(1, 0)]]] ∧
      layeredB g [[0, 1], [2], [3]] = true ∧
      (buildFolded g [[0, 1], [2], [3]]).outIdx = [(2, 0)] := by
  intro g
  -- the last four conjuncts by evaluation, the first from the third of them
  refine (fun h => ⟨layeredB_layered _ _ h.2.2.1, h⟩) ?_
  decide +kernel

/-- `build_address_book_stacked_entry` + `LayerAddressBook.lookup`: the gather returns, for each
    fold `f` and input `h`, the slice named by `inIdx[f][h] = (module, slice)`. -/
theorem stackedEntry_gather {α : Type} (inIdx : List (List (ℕ × ℕ))) (numFolds : ℕ → ℕ)
    (outs : ℕ → List α) (dflt : α)
    (hlen : ∀ m, (outs m).length = numFolds m) (hrng : ∀ p ∈ inIdx.flatten, p.2 < numFolds p.1) :
    lookupStacked outs (stackedEntry inIdx numFolds) dflt
      = inIdx.map (fun row => row.map fun p => (outs p.1).getD p.2 dflt) := by
  simp only [lookupStacked, stackedEntry, List.map_map]
  refine List.map_congr_left (fun row hrow => ?_)
  simp only [Function.comp_apply, List.map_map]
  refine List.map_congr_left (fun p hp => ?_)
  simp only [Function.comp_apply]
  have hpf : p ∈ inIdx.flatten := List.mem_flatten.mpr ⟨row, hrow, hp⟩
  exact getD_flatMap_cumOffset numFolds outs dflt hlen
    (mem_dedup.mpr (List.mem_map.mpr ⟨p, hpf, rfl⟩)) (hrng p hpf)

/-- `build_address_book_entry` (parameter graphs): the gather for operand `h` returns, for each
    fold, the slice named by column `h` of `inIdx`. -/
theorem operandEntry_gather {α : Type} (inIdx : List (List (ℕ × ℕ))) (numFolds : ℕ → ℕ)
    (outs : ℕ → List α) (dflt : α) (h : ℕ)
    (hlen : ∀ m, (outs m).length = numFolds m)
    (hrng : ∀ row ∈ inIdx, h < row.length ∧
      (row.getD h (0, 0)).2 < numFolds (row.getD h (0, 0)).1) :
    lookupOperand outs (operandEntry inIdx numFolds h) dflt
      = inIdx.map (fun row => (outs (row.getD h (0, 0)).1).getD (row.getD h (0, 0)).2 dflt) := by
  simp only [lookupOperand, operandEntry, List.map_map]
  refine List.map_congr_left (fun row hrow => ?_)
  simp only [Function.comp_apply]
  exact getD_flatMap_cumOffset numFolds outs dflt hlen
    (mem_dedup.mpr (List.mem_map.mpr ⟨row, hrow, rfl⟩))
    (hrng row hrow).2

/-- Short-cut (a) of `build_address_book_stacked_entry`: a `1 × F` index matrix equal to
    `arange(F)` over a concatenation of length `F` is `cat.unsqueeze(0)`. -/
theorem unsqueeze0_shortcut {α : Type} (cat : List α) (dflt : α) (F : ℕ) (hF : F = cat.length) :
    [(List.range F).map (cat.getD · dflt)] = [cat] := by
  rw [hF, map_getD_range]

/-- Short-cut (b): an `F × 1` index matrix equal to `arange(F)` is `cat.unsqueeze(1)`. -/
theorem unsqueeze1_shortcut {α : Type} (cat : List α) (dflt : α) (F : ℕ) (hF : F = cat.length) :
    (List.range F).map (fun i => [cat.getD i dflt]) = cat.map (fun a => [a]) := by
  subst hF
  conv_rhs => rw [← map_getD_range cat dflt, List.map_map]
  rfl

/-- SumCollapse: `(W1·W2)·x = W1·(W2·x)`.  (`ko` does not occur in the statement.) -/
theorem sum_collapse_eq {R : Type} [CommSemiring R] (ko k1 n : ℕ) (W1 W2 : ℕ → ℕ → R)
    (x : ℕ → R) (o : ℕ) :
    ∑ c ∈ Finset.range n, (∑ m ∈ Finset.range k1, W1 o m * W2 m c) * x c
      = ∑ m ∈ Finset.range k1, W1 o m * (∑ c ∈ Finset.range n, W2 m c * x c) := by
  have _ := ko
  simp only [Finset.sum_mul, Finset.mul_sum, mul_assoc]
  exact Finset.sum_comm

/-- Tucker (arity 2): the einsum `W.view(k,k)[i,j] · a_i · b_j` is the dense sum over the
    Kronecker vector `(a ⊗ b)[c] = a[c / k] · b[c % k]`. -/
theorem tucker_eq {R : Type} [CommSemiring R] (k : ℕ) (W : ℕ → R) (a b : ℕ → R) :
    ∑ c ∈ Finset.range (k * k), W c * (a (c / k) * b (c % k))
      = ∑ i ∈ Finset.range k, ∑ j ∈ Finset.range k, W (i * k + j) * (a i * b j) :=
  sum_range_mul_divMod k k fun c i j => W c * (a i * b j)

/-- Tucker fusion for every arity `n`: the dense sum over the Kronecker vector (unit `c` of the
    Kronecker layer is the product of the mixed-radix digit units of its inputs, first input most
    significant) is the einsum over all index tuples, the core being read at the row-major flat
    index. -/
theorem tucker_eq_general {R : Type} [CommSemiring R] (k n : ℕ) (W : ℕ → R) (a : Fin n → ℕ → R) :
    ∑ c ∈ Finset.range (k ^ n), W c * ∏ j : Fin n, a j (digit k n j.val c)
      = ∑ f : Fin n → Fin k, W (Tpl.flatIdx k n f) * ∏ j : Fin n, a j (f j).val :=
  Tpl.sum_range_pow_digits k n fun c d => W c * ∏ j, a j (d j)

/-- The two-operand Tucker fusion: the statement of `tucker_eq`.  Every arity:
    `tucker_eq_general`. -/
theorem tucker_eq_partial {R : Type} [CommSemiring R] (k : ℕ) (W : ℕ → R) (a b : ℕ → R) :
    ∑ c ∈ Finset.range (k * k), W c * (a (c / k) * b (c % k))
      = ∑ i ∈ Finset.range k, ∑ j ∈ Finset.range k, W (i * k + j) * (a i * b j) :=
  tucker_eq k W a b

/-- LogSoftmax: `log ∘ softmax = log_softmax`. -/
theorem logsoftmax_eq {ι : Type} (s : Finset ι) (x : ι → ℝ) (i : ι) (hi : i ∈ s) :
    Real.log (Real.exp (x i) / ∑ j ∈ s, Real.exp (x j))
      = x i - Real.log (∑ j ∈ s, Real.exp (x j)) := by
  rw [Real.log_div (Real.exp_pos _).ne'
    (Finset.sum_pos (fun j _ => Real.exp_pos (x j)) ⟨i, hi⟩).ne', Real.log_exp]

end Cirkit.C02
