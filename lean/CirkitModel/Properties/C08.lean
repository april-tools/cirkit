/-
  C08 — structural predicates of symbolic circuits (`cirkit/symbolic/circuit.py`).

  Theorems are about the model (`CirkitModel.Model.Sym`): `SCirc.isSmooth`, `isDecomposable`,
  `scopeFactorizations`, `isStructuredDecomposable`, `areCompatible`.
  * `smooth_iff`, `decomposable_iff`: the flags say exactly what the definitions of smoothness and
    decomposability say about the layer scopes (`decomposable_iff'`: on positions and variables).
  * `sd_sound`: a circuit is reported structured-decomposable only if all products over the same
    scope split it into the same sub-scopes. It rests on `SCirc.scopeFactorizations_complete`
    (every product layer with at least two non-empty input scopes is recorded, under its scope, in
    `scopeFactorizations`) and on the uniqueness of its keys (`SCirc.scopeFactorizations_inj`,
    of which `factorizations_keys_unique` is the statement on pairs).
  * `compat_symm`, `compat_sound`, `compat_implies_sd`: `areCompatible` is symmetric, and
    compatible circuits split equal scopes identically and are each structured-decomposable.
  * `sortScopes_perm`, `factors_perm_invariant`: the canonical order of sub-scopes makes the
    recorded factorization independent of the order in which a layer lists its inputs.
  Proofs: `CirkitModel.Proofs.Struct`.
-/
import CirkitModel.Proofs.Struct
import CirkitModel.Proofs.Scope

namespace Cirkit.C08
variable {R : Type}

theorem smooth_iff (c : SCirc R) :
    c.isSmooth = true ↔
      ∀ (p : Nat) (l : SLayer R), c.layers[p]? = some l → l.kind.isSum = true →
      ∀ i ∈ l.ins, c.scopes.getD i [] = c.scopes.getD p [] :=
  (SCirc.all_layers c _).trans (by simp only [ite_eq_right_iff, List.all_eq_true, beq_iff_eq])

theorem decomposable_iff (c : SCirc R) :
    c.isDecomposable = true ↔
      ∀ (p : Nat) (l : SLayer R), c.layers[p]? = some l → l.kind.isProduct = true →
      ∀ q ∈ SCirc.pairs l.ins,
        Scope.disjoint (c.scopes.getD q.1 []) (c.scopes.getD q.2 []) = true :=
  (SCirc.all_layers c _).trans (by simp only [ite_eq_right_iff, List.all_eq_true])

theorem decomposable_iff' (c : SCirc R) :
    c.isDecomposable = true ↔
      ∀ (p : Nat) (l : SLayer R), c.layers[p]? = some l → l.kind.isProduct = true →
      ∀ i j : Nat, i < j → ∀ a b, l.ins[i]? = some a → l.ins[j]? = some b →
        ∀ v ∈ c.scopes.getD a [], v ∉ c.scopes.getD b [] := by
  rw [decomposable_iff]
  refine forall₄_congr fun p l _ _ => ?_
  -- the inputs of a product layer have pairwise disjoint scopes
  rw [SCirc.forall_mem_pairs fun a b =>
      Scope.disjoint (c.scopes.getD a []) (c.scopes.getD b []) = true, List.pairwise_iff_getElem]
  constructor
  · intro h i j hij a b ha hb
    obtain ⟨hi, rfl⟩ := List.getElem?_eq_some_iff.1 ha
    obtain ⟨hj, rfl⟩ := List.getElem?_eq_some_iff.1 hb
    exact (Scope.disjoint_iff _ _).1 (h i j hi hj hij)
  · exact fun h i j hi hj hij => (Scope.disjoint_iff _ _).2
      (h i j hij _ _ (List.getElem?_eq_getElem hi) (List.getElem?_eq_getElem hj))

theorem factorizations_keys_unique (c : SCirc R) (k : Scope) (s1 s2 : List (List Scope))
    (h1 : (k, s1) ∈ c.scopeFactorizations) (h2 : (k, s2) ∈ c.scopeFactorizations) : s1 = s2 :=
  (Prod.mk.inj (SCirc.scopeFactorizations_inj c h1 h2 rfl)).2

theorem sd_sound (c : SCirc R) (h : c.isStructuredDecomposable = true) (p q : Nat)
    (lp lq : SLayer R) (hp : c.layers[p]? = some lp) (hq : c.layers[q]? = some lq)
    (hpp : lp.kind.isProduct = true) (hqp : lq.kind.isProduct = true)
    (hs : c.scopes.getD p [] = c.scopes.getD q [])
    (h2p : 1 < (c.factors lp).length) (h2q : 1 < (c.factors lq).length) :
    c.factors lp = c.factors lq := by
  obtain ⟨x, hx, hkx, hfx⟩ := SCirc.scopeFactorizations_complete c p lp hp hpp h2p
  obtain ⟨y, hy, hky, hfy⟩ := SCirc.scopeFactorizations_complete c q lq hq hqp h2q
  obtain rfl : x = y := SCirc.scopeFactorizations_inj c hx hy (hkx.trans (hs.trans hky.symm))
  obtain ⟨a, ha⟩ := List.length_eq_one_iff.1 (((SCirc.isStructuredDecomposable_iff c).1 h).2 x hx)
  rw [ha, List.mem_singleton] at hfx hfy
  exact hfx.trans hfy.symm

theorem sd_implies_smooth_decomposable (c : SCirc R) (h : c.isStructuredDecomposable = true) :
    c.isSmooth = true ∧ c.isDecomposable = true :=
  ((SCirc.isStructuredDecomposable_iff c).1 h).1

theorem compat_symm (c1 c2 : SCirc R) : c1.areCompatible c2 = c2.areCompatible c1 :=
  Bool.eq_iff_iff.2 <| by
    rw [SCirc.areCompatible_iff, SCirc.areCompatible_iff]
    exact ⟨fun ⟨h1, h2, h12, h21⟩ => ⟨h2, h1, h21, h12⟩,
      fun ⟨h1, h2, h12, h21⟩ => ⟨h2, h1, h21, h12⟩⟩

theorem compat_sound (c1 c2 : SCirc R) (h : c1.areCompatible c2 = true) (p q : Nat)
    (lp lq : SLayer R) (hp : c1.layers[p]? = some lp) (hq : c2.layers[q]? = some lq)
    (hpp : lp.kind.isProduct = true) (hqp : lq.kind.isProduct = true)
    (hs : c1.scopes.getD p [] = c2.scopes.getD q [])
    (h2p : 1 < (c1.factors lp).length) (h2q : 1 < (c2.factors lq).length) :
    c1.factors lp = c2.factors lq := by
  obtain ⟨x, hx, hkx, hfx⟩ := SCirc.scopeFactorizations_complete c1 p lp hp hpp h2p
  obtain ⟨y, hy, hky, hfy⟩ := SCirc.scopeFactorizations_complete c2 q lq hq hqp h2q
  -- `c2` records the one factorization `a` of `c1` under the same scope, i.e. in `y`
  obtain ⟨a, ha, hma⟩ := SCirc.compatDir_elim _ _ ((SCirc.areCompatible_iff c1 c2).1 h).2.2.1 x hx
  obtain rfl : (x.1, [a]) = y :=
    SCirc.scopeFactorizations_inj c2 hma hy (hkx.trans (hs.trans hky.symm))
  rw [ha, List.mem_singleton] at hfx
  exact hfx.trans (List.mem_singleton.1 hfy).symm

theorem compat_implies_sd (c1 c2 : SCirc R) (h : c1.areCompatible c2 = true) :
    c1.isStructuredDecomposable = true ∧ c2.isStructuredDecomposable = true := by
  obtain ⟨h1, h2, h12, h21⟩ := (SCirc.areCompatible_iff c1 c2).1 h
  exact ⟨(SCirc.isStructuredDecomposable_iff c1).2 ⟨h1, SCirc.compatDir_length _ _ h12⟩,
    (SCirc.isStructuredDecomposable_iff c2).2 ⟨h2, SCirc.compatDir_length _ _ h21⟩⟩

theorem lexLe_total (a b : Scope) : Scope.lexLe a b = true ∨ Scope.lexLe b a = true := by
  simp only [Scope.lexLe_iff]; exact le_total a b

theorem lexLe_antisymm (a b : Scope) (h1 : Scope.lexLe a b = true) (h2 : Scope.lexLe b a = true) :
    a = b :=
  le_antisymm ((Scope.lexLe_iff a b).1 h1) ((Scope.lexLe_iff b a).1 h2)

theorem lexLe_trans (a b c : Scope) (h1 : Scope.lexLe a b = true) (h2 : Scope.lexLe b c = true) :
    Scope.lexLe a c = true :=
  (Scope.lexLe_iff a c).2 (le_trans ((Scope.lexLe_iff a b).1 h1) ((Scope.lexLe_iff b c).1 h2))

theorem sortScopes_spec (l : List Scope) :
    (Scope.sortScopes l).Perm l
      ∧ (Scope.sortScopes l).Pairwise (fun a b => Scope.lexLe a b = true) := by
  refine ⟨Scope.sortScopes_perm_self l, ?_⟩
  simp only [Scope.lexLe_iff]
  exact Scope.sortScopes_sorted l

set_option linter.unusedVariables false in
/-- `hsorted` is not needed: `lexLe` is a linear order on arbitrary lists of naturals. -/
theorem sortScopes_perm (l l' : List Scope) (h : l.Perm l')
    (hsorted : ∀ s ∈ l, s.Pairwise (· < ·)) : Scope.sortScopes l = Scope.sortScopes l' :=
  Scope.sortScopes_eq_of_perm h

theorem factors_perm_invariant (c : SCirc R) (l l' : SLayer R) (h : l.ins.Perm l'.ins) :
    c.factors l = c.factors l' := by
  unfold SCirc.factors
  rw [Scope.sortScopes_eq_of_perm (h.map _)]

/-- non-vacuity: two embedding leaves over the variables 0 and 1, their Hadamard product, and a
    sum layer -/
def exampleCirc : SCirc Rat :=
  { layers := #[
      ⟨.embedding 0 2 2 (.const [2, 2] #[1, 2, 3, 4]), []⟩,
      ⟨.embedding 1 2 2 (.const [2, 2] #[1, 2, 3, 4]), []⟩,
      ⟨.hadamard 2 2, [0, 1]⟩,
      ⟨.sum 2 1 1 (.const [1, 2] #[1, 2]), [2]⟩],
    outputs := [3] }

example : exampleCirc.isSmooth = true := by decide +kernel
example : exampleCirc.isDecomposable = true := by decide +kernel
example : exampleCirc.isStructuredDecomposable = true := by decide +kernel
example : exampleCirc.scopeFactorizations = [([0, 1], [[[0], [1]]])] := by decide +kernel
example : exampleCirc.areCompatible exampleCirc = true := by decide +kernel
example : exampleCirc.factors ⟨.hadamard 2 2, [0, 1]⟩ = [[0], [1]] := by decide +kernel

end Cirkit.C08
