/-
  C10 — derived circuits share parameters with their operands.

  Theorems are about the model (`CirkitModel.Model.PExpr`: parameter graphs, whose leaves are
  tensors `.tensor uid`, references `.ref uid` to a tensor of another layer / circuit, and
  constants; `CirkitModel.Model.Sym`: symbolic circuits and their denotation as `Node` trees).
  A valuation `θ : ℕ → Option (Array R)` gives the current value of every tensor `uid`.

  * `eval_congr`
      — a parameter graph's value depends only on the valuation of its leaves.
  * `ref_reads_the_tensor`
      — a reference evaluates to the very tensor it points to, under every valuation (i.e. at
        every time: there is no copy that could go stale).
  * `denote_congr` (full statement, for whole circuits; `leafFun_congr` is the per-input-layer
    instance)
      — a circuit's denotation depends only on the valuation of its leaves.  Hence a derived
        circuit — whose leaves are references to the operand's tensors, and constants — denotes a
        function of the operand's *current* valuation only: after any update of the operand, the
        defining relations of C03/C04/C06/C07, which hold for EVERY valuation, still hold.
  * `no_new_leaves_of_refs`
      — if a graph is built from references and constants only (`PExpr.onlyRefs`), every one of its
        leaves is a reference: the symbolic side of "introduces no new learnable parameters".

  Note on `PExpr.eval` / `leafFun` / `SCirc.denote`: their optional argument `pre` (default `id`)
  comes before the expression.  The theorems below are stated for the default `pre = id`;
  `PExpr.eval_congr_aux` and the `_pre` variants hold for an arbitrary `pre`.
  Proofs: `CirkitModel.Proofs.Params`, where the dependence on the valuation is stated
  without leaves: `leafFun` and `SCirc.denoteLayers` read it only through `PExpr.eval` of the
  layers' `params`.
-/
import CirkitModel.Proofs.Params

namespace Cirkit.C10
variable {R : Type}

theorem eval_congr (A : AOps R) (θ θ' : ℕ → Option (Array R)) (e : PExpr R)
    (h : ∀ p ∈ e.leaves, θ p.1 = θ' p.1) : PExpr.eval A θ id e = PExpr.eval A θ' id e :=
  PExpr.eval_congr_aux A θ θ' id e h

theorem ref_reads_the_tensor_pre (A : AOps R) (θ : ℕ → Option (Array R)) (pre : R → R) (uid : ℕ)
    (shape : List ℕ) :
    PExpr.eval A θ pre (.ref uid shape) = PExpr.eval A θ pre (.tensor uid shape) :=
  rfl

theorem ref_reads_the_tensor (A : AOps R) (θ : ℕ → Option (Array R)) (uid : ℕ) (shape : List ℕ) :
    PExpr.eval A θ id (.ref uid shape) = PExpr.eval A θ id (.tensor uid shape) :=
  ref_reads_the_tensor_pre A θ id uid shape

theorem leafFun_congr (A : AOps R) (θ θ' : ℕ → Option (Array R)) (pre : R → R) (K : LKind R)
    (h : ∀ p ∈ K.params.flatMap PExpr.leaves, θ p.1 = θ' p.1) :
    leafFun A θ pre K = leafFun A θ' pre K :=
  leafFun_congr_eval A θ θ' pre K fun e he =>
    PExpr.eval_congr_aux A θ θ' pre e fun p hp => h p (List.mem_flatMap.2 ⟨e, he, hp⟩)

theorem denote_congr_pre (A : AOps R) (θ θ' : ℕ → Option (Array R)) (pre : R → R) (c : SCirc R)
    (h : ∀ p ∈ c.leaves, θ p.1 = θ' p.1) : c.denote A θ pre = c.denote A θ' pre := by
  unfold SCirc.denote
  rw [c.denoteLayers_congr_eval A θ θ' pre fun l hl e he =>
    PExpr.eval_congr_aux A θ θ' pre e fun p hp => h p <|
      List.mem_flatMap.2 ⟨l, Array.mem_toList_iff.2 hl, List.mem_flatMap.2 ⟨e, he, hp⟩⟩]

theorem denote_congr (A : AOps R) (θ θ' : ℕ → Option (Array R)) (c : SCirc R)
    (h : ∀ p ∈ c.leaves, θ p.1 = θ' p.1) : c.denote A θ = c.denote A θ' :=
  denote_congr_pre A θ θ' id c h

theorem no_new_leaves_of_refs (e : PExpr R) (h : e.onlyRefs = true) :
    ∀ p ∈ e.leaves, p.2 = true :=
  List.all_eq_true.1 (e.onlyRefs_eq_all.symm.trans h)

end Cirkit.C10
