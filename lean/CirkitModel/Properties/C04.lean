/-
  C04 — `multiply` is the pointwise product, with units in Kronecker order.

  Theorems are about the model `Node.mul` / `Circ.mul` (`CirkitModel.Model.Mul`), which mirrors
  `cirkit.symbolic.functional.multiply` (which layers are paired, the Kronecker layer for disjoint
  scopes, the sorting of the inputs of Hadamard layers by scope) and the product rules
  `multiply_*_layers` of `cirkit.symbolic.operators` (unit order `i * K2 + j`, the weight layout of
  the product sum layer, the permutation sum layer on top of the product of two Kronecker layers).

  Whenever the model returns a layer `p` for operands `n1`, `n2`:
  * `mul_units`   : `p` has `n1.units * n2.units` units;
  * `mul_wf`      : `p` is well-formed if the operands are;
  * `mul_correct` : unit `i * n2.units + j` of `p` computes `n1[i] * n2[j]` at every assignment —
    for every pair of layers with a product rule (disjoint scopes, input × input, sum × sum with any
    arities, Hadamard × Hadamard with any input order, Kronecker × Kronecker), in full generality
    and without any compatibility hypothesis;
  * `mulC_outputs`, `mulC_correct` : on circuits, output `(a, b)` sits at position
    `a * |outputs c2| + b` and is the product of output `a` of `c1` and output `b` of `c2`
    (`mulC_eval` : and denotes their pointwise product);
  * `mul_refuses_unit_mismatch` : layers over disjoint scopes with different unit counts are refused
    (`NotImplementedError` in cirkit);
  * `kron_weight_layout` : the column order `(h1, h2, i1, i2)` of the product sum layer is not the
    column order `(h1, i1, h2, i2)` of the Kronecker product of the two weight matrices (defect D2
    of DESIGN.md).
  Proofs: `CirkitModel.Proofs.Mul` (`Node.MulRel`: the relation computed by `Node.mul`).
-/
import CirkitModel.Proofs.Bridge
import CirkitModel.Proofs.Mul

namespace Cirkit.C04
variable {R V : Type} [CommSemiring R]

theorem mul_units (n1 n2 p : Node R V) (h : Node.mul (Ops.ofCommSemiring R) n1 n2 = .ok p) :
    p.units = n1.units * n2.units :=
  (Node.mul_rel h).units_eq

theorem mul_wf (n1 n2 p : Node R V) (h : Node.mul (Ops.ofCommSemiring R) n1 n2 = .ok p)
    (h1 : n1.WF) (h2 : n2.WF) : p.WF :=
  (Node.mul_rel h).wf h1 h2

theorem mul_correct (n1 n2 p : Node R V) (h : Node.mul (Ops.ofCommSemiring R) n1 n2 = .ok p)
    (h1 : n1.WF) (h2 : n2.WF) (x : ℕ → V) (i j : ℕ) (hi : i < n1.units) (hj : j < n2.units) :
    p.eval (Ops.ofCommSemiring R) x (i * n2.units + j)
      = n1.eval (Ops.ofCommSemiring R) x i * n2.eval (Ops.ofCommSemiring R) x j :=
  (Node.mul_rel h).correct h1 h2 x i j hi hj

theorem mulC_outputs (c1 c2 p : Circ R V) (h : Circ.mul (Ops.ofCommSemiring R) c1 c2 = .ok p) :
    p.outputs.length = c1.outputs.length * c2.outputs.length :=
  Circ.mul_length _ c1 c2 p h

theorem mulC_correct (c1 c2 p : Circ R V) (h : Circ.mul (Ops.ofCommSemiring R) c1 c2 = .ok p)
    (a b : ℕ) (ha : a < c1.outputs.length) (hb : b < c2.outputs.length) :
    ∃ q, p.outputs[a * c2.outputs.length + b]? = some q
      ∧ Node.mul (Ops.ofCommSemiring R) c1.outputs[a] c2.outputs[b] = .ok q :=
  Circ.mul_getElem? _ c1 c2 p h a b ha hb

theorem mulC_eval (c1 c2 p : Circ R V) (h : Circ.mul (Ops.ofCommSemiring R) c1 c2 = .ok p)
    (a b : ℕ) (ha : a < c1.outputs.length) (hb : b < c2.outputs.length)
    (h1 : c1.outputs[a].WF) (h2 : c2.outputs[b].WF) :
    ∃ q, p.outputs[a * c2.outputs.length + b]? = some q
      ∧ q.WF ∧ q.units = c1.outputs[a].units * c2.outputs[b].units
      ∧ ∀ (x : ℕ → V) (i j : ℕ), i < c1.outputs[a].units → j < c2.outputs[b].units →
          q.eval (Ops.ofCommSemiring R) x (i * c2.outputs[b].units + j)
            = c1.outputs[a].eval (Ops.ofCommSemiring R) x i
              * c2.outputs[b].eval (Ops.ofCommSemiring R) x j := by
  obtain ⟨q, hq, hm⟩ := mulC_correct c1 c2 p h a b ha hb
  exact ⟨q, hq, mul_wf _ _ _ hm h1 h2, mul_units _ _ _ hm,
    fun x i j hi hj => mul_correct _ _ _ hm h1 h2 x i j hi hj⟩

theorem mul_refuses_unit_mismatch (n1 n2 : Node R V)
    (hd : Scope.disjoint n1.scopeL n2.scopeL = true) (hu : n1.units ≠ n2.units) :
    Node.mul (Ops.ofCommSemiring R) n1 n2 = .error .unitMismatch :=
  Node.mul_of_disjoint _ (Node.mulDisjoint_mismatch n1 n2 hd hu)

/-- Why the sum × sum rule needs the column order `(h1, h2, i1, i2)`: the Kronecker product of the
    weight matrices has column order `(h1, i1, h2, i2)`, which differs as soon as `ar2 > 1` and
    `kin1 > 1`.  Instance `ar1 = 1, kin1 = 2, ar2 = 2, kin2 = 1` at
    `(h1, i1, h2, i2) = (0, 1, 0, 0)`. -/
theorem kron_weight_layout :
    let ar1 := 1; let kin1 := 2; let ar2 := 2; let kin2 := 1
    let h1 := 0; let i1 := 1; let h2 := 0; let i2 := 0
    h1 < ar1 ∧ i1 < kin1 ∧ h2 < ar2 ∧ i2 < kin2 ∧
      ((h1 * kin1 + i1) * ar2 + h2) * kin2 + i2
        ≠ (h1 * ar2 + h2) * (kin1 * kin2) + i1 * kin2 + i2 := by
  decide

section NonVacuity

private def lf (v : ℕ) : Node ℚ ℚ := .leaf v 2 (fun i a => a + i)
private def s1 : Node ℚ ℚ := .sum 2 2 3 (fun i c => (i + c : ℚ)) (fun _ => lf 0)
private def s2 : Node ℚ ℚ := .sum 2 2 2 (fun i c => (i * c : ℚ)) (fun _ => lf 0)
private def hd1 : Node ℚ ℚ := .had 2 2 (fun h => if h.val = 0 then lf 1 else lf 0)
private def hd2 : Node ℚ ℚ := .had 2 2 (fun h => if h.val = 0 then lf 0 else lf 1)
private def kr : Node ℚ ℚ := .kron 2 2 (fun h => if h.val = 0 then lf 0 else lf 1)

example : s1.WF ∧ s2.WF := ⟨fun _ => ⟨trivial, rfl⟩, fun _ => ⟨trivial, rfl⟩⟩

/-- sum × sum (arity 2 × 2, same scope) -/
example : ∃ p, Node.mul (Ops.ofCommSemiring ℚ) s1 s2 = .ok p := ⟨_, rfl⟩

/-- Hadamard × Hadamard, inputs listed in different orders -/
example : ∃ p, Node.mul (Ops.ofCommSemiring ℚ) hd1 hd2 = .ok p :=
  -- smart unfolding of `Node.mul` is stuck in the Hadamard branch, so `rfl` needs the unfolding
  -- equation in front
  ⟨_, (Node.mul.eq_def ..).trans rfl⟩

/-- Kronecker × Kronecker -/
example : ∃ p, Node.mul (Ops.ofCommSemiring ℚ) kr kr = .ok p := ⟨_, rfl⟩

/-- disjoint scopes: a fresh Kronecker layer -/
example : ∃ p, Node.mul (Ops.ofCommSemiring ℚ) (lf 0) (lf 1) = .ok p := ⟨_, rfl⟩

/-- disjoint scopes, different unit counts: refused -/
example : Node.mul (Ops.ofCommSemiring ℚ) (lf 0) (.leaf 1 3 fun _ a => a)
    = .error .unitMismatch := rfl

end NonVacuity

end Cirkit.C04
