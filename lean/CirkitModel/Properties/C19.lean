/-
  C19 — saved parameters reproduce the circuit after reload.

  Theorems are about the model `CirkitModel.Model.Params` (`StateLayout`: the registered tensors of
  a compiled circuit in module-tree order, each with its key and the storage it aliases;
  `save` = `state_dict()`, `load` = `load_state_dict(sd)`).

  * `load_save`
      — loading a saved dictionary into any same-layout instance, whatever its fresh values
        `vals'`, makes every registered storage equal to the saved one.  Hypothesis `hkeys`: a key
        determines its storage.  Duplicate keys for one storage, as produced by pointer parameters
        (the target is registered again under the pointer's key), are harmless: they carry equal
        values.
  * `load_untouched`
      — storages that are not registered keep their value.
  * `keys_deterministic`
      — the key set is a function of the compiled structure only, not of the values.
  * `exactly_once_iff`
      — "every learnable tensor appears exactly once" = no storage under two keys.  This is the
        hypothesis that fails for derived circuits (known finding D12).
  * the two `example`s: a layout with a pointer duplicate violates `Nodup` but still satisfies the
    hypotheses of `load_save`.

  `load_save` and `load_untouched` are instances of one invariant of `load`, `StateLayout.load_inv`
  (`CirkitModel.Proofs.Params`).
-/
import Mathlib.Data.List.Nodup
import CirkitModel.Proofs.Params

namespace Cirkit.C19

theorem load_save {α : Type} (l : StateLayout) (vals vals' : ℕ → α) (sid : ℕ)
    (h : ∃ e ∈ l.entries, e.2 = sid)
    (hkeys : ∀ e₁ ∈ l.entries, ∀ e₂ ∈ l.entries, e₁.1 = e₂.1 → e₁.2 = e₂.2) :
    l.load (l.save vals) vals' sid = vals sid := by
  refine l.load_inv (· = vals sid) _ sid (fun e he hs => ?_) vals' (Or.inr (List.mem_map.2 h))
  -- the first entry `e'` with the key of `e` is the one `find?` sees in the saved dictionary
  unfold StateLayout.save
  rw [List.find?_map]
  cases hf : l.entries.find? ((·.1 == e.1) ∘ fun e => (e.1, vals e.2)) with
  | none => exact absurd (beq_self_eq_true e.1) (List.find?_eq_none.1 hf e he)
  | some e' =>
    have hk := List.find?_some hf
    exact ⟨_, rfl, congrArg vals <|
      (hkeys e' (List.mem_of_find?_eq_some hf) e he (beq_iff_eq.1 hk)).trans hs⟩

theorem load_untouched {α : Type} (l : StateLayout) (sd : List (String × α)) (vals' : ℕ → α)
    (sid : ℕ) (h : ∀ e ∈ l.entries, e.2 ≠ sid) : l.load sd vals' sid = vals' sid :=
  l.load_inv (· = vals' sid) sd sid (fun e he hs => absurd hs (h e he)) vals' (Or.inl rfl)

theorem keys_deterministic {α : Type} (l : StateLayout) (v1 v2 : ℕ → α) :
    (l.save v1).map (·.1) = (l.save v2).map (·.1) := by
  rw [save_keys, save_keys]

theorem exactly_once_iff (l : StateLayout) :
    (l.entries.map (·.2)).Nodup ↔ ∀ sid, (l.entries.filter (·.2 = sid)).length ≤ 1 := by
  rw [List.nodup_iff_count_le_one]
  refine forall_congr' fun sid => ?_
  rw [List.count, List.countP_map, List.countP_eq_length_filter]
  rfl

/-- A pointer duplicate: the storage `0` is registered under two keys … -/
example : ¬ ((⟨[("w", 0), ("p._parameter", 0)]⟩ : StateLayout).entries.map (·.2)).Nodup := by
  decide +kernel

/-- … but the hypotheses of `load_save` hold (every key determines its storage), so the round trip
    is still exact. -/
example {α : Type} (vals vals' : ℕ → α) :
    (⟨[("w", 0), ("p._parameter", 0)]⟩ : StateLayout).load
      ((⟨[("w", 0), ("p._parameter", 0)]⟩ : StateLayout).save vals) vals' 0 = vals 0 := by
  have h0 : ∀ e ∈ [("w", 0), ("p._parameter", 0)], e.2 = 0 := by decide
  exact load_save _ vals vals' 0 ⟨_, List.mem_cons_self, rfl⟩ fun e₁ h₁ e₂ h₂ _ =>
    (h0 e₁ h₁).trans (h0 e₂ h₂).symm

end Cirkit.C19
