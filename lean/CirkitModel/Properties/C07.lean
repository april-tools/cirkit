/-
  C07 — `conjugate` denotes the conjugate of the denoted function.

  Theorems are about the model (`CirkitModel.Model.Node`): `Node.conj σ` applies `σ` to every
  input function and every sum-layer weight and keeps the products
  (`cirkit.symbolic.functional.conjugate`).  For a ring homomorphism `σ` (complex conjugation:
  `conjugate_complex`) the result denotes `σ ∘` the operand (`conjugate_correct`, no structural
  hypotheses); an involutive `σ` gives back the operand's function when applied twice
  (`conjugate_conjugate`); the identity (real circuits) changes nothing (`conjugate_real`); scope,
  well-formedness, smoothness, decomposability and unit counts are untouched for any map `σ`
  (`conjugate_scope`, `conjugate_preserves_structure`); conjugation commutes with integration
  against a quadrature with `σ`-fixed (real) weights (`conjugate_integral`).
  Proofs: `CirkitModel.Proofs.Transport` (`conj_eq_mapVals`, `conj_correct`, what `mapVals` keeps of
  the structure, `conj_integ1`), `CirkitModel.Proofs.Operators` (`quad_map`).
-/
import Mathlib.Data.Complex.Basic
import CirkitModel.Proofs.Bridge
import CirkitModel.Proofs.Transport
import CirkitModel.Proofs.Operators

namespace Cirkit.C07
variable {R V : Type} [CommSemiring R]

theorem conjugate_correct (n : Node R V) (σ : R →+* R) (x : ℕ → V) (i : ℕ) :
    (n.conj σ).eval (Ops.ofCommSemiring R) x i = σ (n.eval (Ops.ofCommSemiring R) x i) :=
  Node.conj_correct n σ x i

theorem conjugate_conjugate (n : Node R V) (σ : R →+* R) (hinv : ∀ a, σ (σ a) = a) (x : ℕ → V)
    (i : ℕ) :
    ((n.conj σ).conj σ).eval (Ops.ofCommSemiring R) x i = n.eval (Ops.ofCommSemiring R) x i := by
  rw [Node.conj_correct, Node.conj_correct, hinv]

theorem conjugate_real (n : Node R V) (x : ℕ → V) (i : ℕ) :
    (n.conj (RingHom.id R)).eval (Ops.ofCommSemiring R) x i
      = n.eval (Ops.ofCommSemiring R) x i := by
  rw [Node.conj_correct, RingHom.id_apply]

omit [CommSemiring R] in
theorem conjugate_scope (n : Node R V) (σ : R → R) (z : ℕ) :
    Node.Mem z (n.conj σ) ↔ Node.Mem z n :=
  Node.conj_eq_mapVals σ n ▸ Node.mem_mapVals σ n z

omit [CommSemiring R] in
theorem conjugate_preserves_structure (n : Node R V) (σ : R → R) :
    ((n.conj σ).WF ↔ n.WF) ∧ ((n.conj σ).Smooth ↔ n.Smooth) ∧ ((n.conj σ).Decomp ↔ n.Decomp)
      ∧ (n.conj σ).units = n.units :=
  Node.conj_eq_mapVals σ n ▸
    ⟨Node.mapVals_wf σ n, Node.mapVals_smooth σ n, Node.mapVals_decomp σ n, Node.mapVals_units σ n⟩

theorem conjugate_integral (n : Node R V) (σ : R →+* R) (dom : List V) (w : V → R)
    (hw : ∀ a, σ (w a) = w a) (v : ℕ) (x : ℕ → V) (i : ℕ) :
    ((n.conj σ).integ1 v (Node.quad (Ops.ofCommSemiring R) dom w)).eval (Ops.ofCommSemiring R) x i
      = σ ((n.integ1 v (Node.quad (Ops.ofCommSemiring R) dom w)).eval
          (Ops.ofCommSemiring R) x i) := by
  rw [Node.conj_integ1 n σ _ (quad_map σ dom w hw) v, Node.conj_correct]

/-- Complex circuits: `conjugate` is complex conjugation of the denoted function. -/
theorem conjugate_complex (n : Node ℂ V) (x : ℕ → V) (i : ℕ) :
    (n.conj (starRingEnd ℂ)).eval (Ops.ofCommSemiring ℂ) x i
      = starRingEnd ℂ (n.eval (Ops.ofCommSemiring ℂ) x i) :=
  Node.conj_correct n (starRingEnd ℂ) x i

end Cirkit.C07
