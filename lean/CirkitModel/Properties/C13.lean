/-
  C13 — gradients: what autograd differentiates is the denoted function, independently of the
  compilation flags, and the custom backward passes are the true derivatives.

  Theorems are about the model (`CirkitModel.Model.Node`) and about real analysis (Mathlib).
  Forward-mode differentiation is evaluation over the dual numbers `TrivSqZeroExt R R` (`a + bε`,
  `ε² = 0`), which the driver executes at `Dual Rat`.

  Partial (runtime, exercised by the correspondence check only): that `torch.autograd` computes
  the derivative of the executed float program; `nan_to_num` at `x = 0` (outside the hypothesis
  `x ≠ 0`); float rounding.
-/
import Mathlib.Algebra.TrivSqZeroExt.Basic
import Mathlib.Algebra.Polynomial.Taylor
import Mathlib.Analysis.SpecialFunctions.Log.Deriv
import CirkitModel.Proofs.Bridge
import CirkitModel.Proofs.Transport
import CirkitModel.Proofs.LseShift

namespace Cirkit.C13

/-- Evaluation over dual numbers projects to ordinary evaluation: carrying tangents never changes
    the forward value. -/
theorem dual_value {R V : Type} [CommSemiring R] (n : Node (TrivSqZeroExt R R) V) (x : ℕ → V)
    (i : ℕ) :
    TrivSqZeroExt.fst (n.eval (Ops.ofCommSemiring (TrivSqZeroExt R R)) x i)
      = (n.mapVals TrivSqZeroExt.fst).eval (Ops.ofCommSemiring R) x i := by
  -- by definition `fst` carries the operations of the dual numbers to those of `R`
  refine (Node.eval_mapVals ?_ x n i).symm
  exact ⟨rfl, rfl, fun _ _ => rfl, fun _ _ => rfl⟩

/-- The ε-part of evaluating a polynomial at `a + bε` is the derivative at `a` times `b`: the oracle
    the correspondence check compares `torch.autograd` against. -/
theorem dual_polynomial_derivative {R : Type} [CommRing R] (p : Polynomial R) (a b : R) :
    Polynomial.eval (TrivSqZeroExt.inl a + TrivSqZeroExt.inr b)
        (p.map (TrivSqZeroExt.inlHom R R))
      = TrivSqZeroExt.inl (p.eval a) + TrivSqZeroExt.inr (p.derivative.eval a * b) := by
  -- `inlHom R R a` is `inl a` by definition, so `eval_map_apply` reads:
  have hev : ∀ q : Polynomial R,
      (q.map (TrivSqZeroExt.inlHom R R)).eval (TrivSqZeroExt.inl a)
        = TrivSqZeroExt.inl (q.eval a) :=
    fun q => Polynomial.eval_map_apply (TrivSqZeroExt.inlHom R R) a
  have hsq : (TrivSqZeroExt.inr b : TrivSqZeroExt R R) ^ 2 = 0 :=
    (sq _).trans (TrivSqZeroExt.inr_mul_inr R b b)
  -- `inl r * inr b = inr (r • b)`, and the action of `R` on itself is multiplication
  rw [Polynomial.eval_add_of_sq_eq_zero _ _ _ hsq, Polynomial.derivative_map, hev, hev,
    TrivSqZeroExt.inl_mul_inr, smul_eq_mul]

/-- Equal functions have equal gradients, whatever "gradient" (`D`) is.  With C02 (folding and the
    optimisation rewrites preserve the outputs), every flag combination computes the same function
    of the parameters, hence has the same gradient. -/
theorem flag_independent_grad {α β : Type} (f g : α → β) (D : (α → β) → α → β) (h : f = g) :
    D f = D g :=
  congrArg D h

/-- `SafeLog.backward` (`grad_output / x`) is the true derivative of `log` wherever
    `x ≠ 0`. -/
theorem safelog_backward (x : ℝ) (hx : x ≠ 0) : HasDerivAt Real.log x⁻¹ x :=
  Real.hasDerivAt_log hx

set_option linter.unusedVariables false in
/-- The two forms of the backward value agree (`x ≠ 0`: where `nan_to_num` is inactive; the
    hypothesis is not needed, as `0⁻¹ = 0` in `ℝ`). -/
theorem safelog_nan_to_num_only_at_zero : ∀ g x : ℝ, x ≠ 0 → g / x = g * x⁻¹ :=
  fun g x _ => div_eq_mul_inv g x

/-- The max-shifted and the plain log-sum-exp are the same function of `x` wherever the sum is
    positive (C01 `lse_shift`). -/
theorem lse_shift_grad {ι : Type} (s : Finset ι) (w : ι → ℝ) (m : ℝ) :
    ∀ x : ι → ℝ, 0 < ∑ i ∈ s, w i * Real.exp (x i) →
      (fun y : ι → ℝ => Real.log (∑ i ∈ s, w i * Real.exp (y i - m)) + m) x
        = (fun y : ι → ℝ => Real.log (∑ i ∈ s, w i * Real.exp (y i))) x :=
  fun x hpos => lse_shift_real s w x m hpos

/-- Shifting by the (detached) maximum does not change gradients: the set where the sum is positive
    is open, so the two functions agree on a neighbourhood and have the same (Fréchet) derivative
    there. -/
theorem lse_shift_hasFDerivAt {ι : Type} [Fintype ι] (s : Finset ι) (w : ι → ℝ) (m : ℝ)
    (x : ι → ℝ) (hpos : 0 < ∑ i ∈ s, w i * Real.exp (x i)) (L : (ι → ℝ) →L[ℝ] ℝ) :
    HasFDerivAt (fun y : ι → ℝ => Real.log (∑ i ∈ s, w i * Real.exp (y i - m)) + m) L x
      ↔ HasFDerivAt (fun y : ι → ℝ => Real.log (∑ i ∈ s, w i * Real.exp (y i))) L x := by
  apply Filter.EventuallyEq.hasFDerivAt_iff
  have hopen : IsOpen {y : ι → ℝ | 0 < ∑ i ∈ s, w i * Real.exp (y i)} :=
    isOpen_lt continuous_const (by fun_prop)
  filter_upwards [hopen.mem_nhds hpos] with y hy
  exact lse_shift_real s w y m hy

end Cirkit.C13
