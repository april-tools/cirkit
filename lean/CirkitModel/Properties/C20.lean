/-
  C20 — the circuit templates compute the documented tensor contractions.

  Theorems are about the model (`CirkitModel.Model.Node`, evaluated with `Ops.ofCommSemiring R`
  for an arbitrary commutative semiring `R`); `x : ℕ → V` is an index tuple / assignment.  First
  single layers and steps, then the whole templates for every number of modes / every ordering,
  about the computable builders of `CirkitModel.Model.Templates` (`Tpl.cpNode`, `Tpl.tuckerNode`,
  `Tpl.ttNode`, `Tpl.hmmNode`, `Tpl.ffNode`), which mirror layer by layer what
  `cirkit/templates/tensor_factorizations.py` and `cirkit/templates/pgms.py` build and which the
  driver executes (command `template`).  The correspondence check builds the template circuits
  with the real library and compares them with the contraction recomputed from the extracted
  factors.

  Logic circuits (`cirkit/templates/logic`): nothing is proved about their compiler.  Determinism
  of the disjunctions is a hypothesis (`logic_disjunction_overcounts` shows why), and the logic
  part is carried by the correspondence only (model counts compared with brute-force enumeration).
-/
import Mathlib.Data.List.GetD
import CirkitModel.Proofs.Templates
import CirkitModel.Proofs.Index

open Finset

namespace Cirkit.C20
variable {R V : Type} [CommSemiring R]

/-- CP: `Σ_r w_r Π_j A_j[r, x_j]`.  (The weight column of unit `r` of the single input `h = 0` is
    `0 * rank + r = r`.) -/
theorem cp_formula (ar rank : ℕ) (w : ℕ → R) (A : Fin ar → ℕ → V → R) (vars : Fin ar → ℕ)
    (x : ℕ → V) :
    (Node.sum 1 rank 1 (fun _ c => w c)
        (fun _ => Node.had ar rank (fun j => Node.leaf (vars j) rank (A j)))).eval
        (Ops.ofCommSemiring R) x 0
      = ∑ r ∈ Finset.range rank, w r * ∏ j : Fin ar, A j r (x (vars j)) := by
  simp only [Node.eval_dense, Node.eval_had, Node.eval_leaf]

set_option linter.unusedVariables false in
/-- The two-mode instance of `tucker_formula`, for any two variables `va`, `vb`: the core is read
    in row-major order `r1 * rank + r2`.  (`hr` is not needed.) -/
theorem tucker_formula_partial (rank : ℕ) (W : ℕ → R) (A B : ℕ → V → R) (va vb : ℕ) (x : ℕ → V)
    (hr : 0 < rank) :
    (Node.sum 1 (rank ^ 2) 1 (fun _ c => W c)
        (fun _ => Node.kron 2 rank
          (fun j => if j.val = 0 then Node.leaf va rank A else Node.leaf vb rank B))).eval
        (Ops.ofCommSemiring R) x 0
      = ∑ r1 ∈ Finset.range rank, ∑ r2 ∈ Finset.range rank,
          W (r1 * rank + r2) * (A r1 (x va) * B r2 (x vb)) := by
  rw [Node.eval_dense, Nat.pow_two, sum_range_mul]
  refine Finset.sum_congr rfl fun r1 h1 => Finset.sum_congr rfl fun r2 h2 => ?_
  rw [Node.eval_kron_pair, Node.eval_leaf, Node.eval_leaf,
    digit_two_zero (mem_range.1 h1) (mem_range.1 h2), digit_two_one (mem_range.1 h2)]

/-- Tensor train: under the block-diagonal ones matrix `block_diag(1_{1×rank}, …, 1_{1×rank})`
    output unit `i` adds up the units of its `i`-th input.  (On a layer: `Tpl.eval_blockOnes`.) -/
theorem tt_step (rank : ℕ) (e : ℕ → ℕ → R) (i : ℕ) (hi : i < rank) :
    ∑ h ∈ Finset.range rank, ∑ j ∈ Finset.range rank, (if h = i then (1 : R) else 0) * e h j
      = ∑ j ∈ Finset.range rank, e i j := by
  rw [Finset.sum_eq_single_of_mem i (Finset.mem_range.mpr hi)]
  · simp only [if_true, one_mul]
  · intro h _ hne
    simp only [hne, if_false, zero_mul, Finset.sum_const_zero]

/-- With input `h` equal to `cur ⊙ G_h`: one step `v ↦ v · G` of the matrix chain. -/
theorem tt_chain_step (rank : ℕ) (cur : ℕ → R) (G : ℕ → ℕ → R) (i : ℕ) (hi : i < rank) :
    ∑ h ∈ Finset.range rank, ∑ j ∈ Finset.range rank,
        (if h = i then (1 : R) else 0) * (cur j * G h j)
      = ∑ j ∈ Finset.range rank, cur j * G i j :=
  tt_step rank (fun h j => cur j * G h j) i hi

/-- One step `s_i ← T · (s_{i+1} ⊙ e)` of the backward recursion of the `hmm` template: the
    dense sum layer over the Hadamard product gives the left-hand side, the documented recursion is
    written as the right-hand side. -/
theorem hmm_step (K : ℕ) (T : ℕ → ℕ → R) (s e : ℕ → R) (i : ℕ) :
    ∑ j ∈ Finset.range K, T i j * (s j * e j) = ∑ j ∈ Finset.range K, T i j * s j * e j := by
  simp only [mul_assoc]

/-- A sum layer with unit weights over two inputs that are both 1 evaluates to 2: a disjunction
    whose disjuncts overlap is not computed as its truth value. -/
theorem logic_disjunction_overcounts : (1 : ℚ) * 1 + 1 * 1 = 2 := by
  rw [mul_one, one_add_one_eq_two]

/-- the same, as an evaluation of the model: two constant-true inputs under a unit-weight sum -/
example :
    (Node.sum 2 1 1 (fun _ _ => (1 : ℚ)) (fun _ => (Node.const 1 (fun _ => 1) : Node ℚ ℕ))).eval
      (Ops.ofCommSemiring ℚ) (fun _ => 0) 0 = 2 := by
  decide +kernel

/-- non-vacuity of `cp_formula`: rank 2, two modes, over ℚ -/
example :
    (Node.sum 1 2 1 (fun _ c => ((c : ℚ) + 1))
        (fun _ => Node.had 2 2
          (fun j => Node.leaf j.val 2 (fun r (a : ℕ) => ((r + a : ℕ) : ℚ))))).eval
        (Ops.ofCommSemiring ℚ) (fun v => v + 1) 0 = 14 := by
  rw [cp_formula]
  decide +kernel

/-! Index conventions for the whole templates (the ones of the real code):
  * an embedding factor is `A j r a` = entry `[r, a]` of the weight (shape `(rank, I_j)`) of the
    embedding layer of mode `j`, whose variable id is `j`; `x j` is the index of mode `j`;
  * everything is evaluated at output unit `0` of the single output layer. -/

/-- CP (`cp(shape, rank)`, `n = len(shape)`). -/
theorem cpNode_eval (n rank : ℕ) (w : ℕ → R) (A : ℕ → ℕ → V → R) (x : ℕ → V) :
    (Tpl.cpNode n rank w A).eval (Ops.ofCommSemiring R) x 0
      = ∑ r ∈ Finset.range rank, w r * ∏ j : Fin n, A j.val r (x j.val) :=
  cp_formula n rank w (fun j => A j.val) (fun j => j.val) x

omit [CommSemiring R] in
/-- `cpNode` is literally the tree `cp_formula` is about (with `vars j = j`). -/
theorem cpNode_eq (n rank : ℕ) (w : ℕ → R) (A : ℕ → ℕ → V → R) :
    Tpl.cpNode n rank w A
      = Node.sum 1 rank 1 (fun _ c => w c)
          (fun _ => Node.had n rank (fun j => Node.leaf j.val rank (A j.val))) := rfl

/-- Tucker (`tucker(shape, rank)`, any `n = len(shape)`) as a sum over the flat core index: the
    first mode is the most significant digit, `core` is the core tensor flattened in row-major
    order. -/
theorem tucker_formula (n rank : ℕ) (core : ℕ → R) (A : ℕ → ℕ → V → R) (x : ℕ → V) :
    (Tpl.tuckerNode n rank core A).eval (Ops.ofCommSemiring R) x 0
      = ∑ c ∈ Finset.range (rank ^ n),
          core c * ∏ j : Fin n, A j.val (digit rank n j.val c) (x j.val) := by
  simp only [Tpl.tuckerNode, Node.eval_dense, Node.eval_kron, Node.eval_leaf]

/-- Tucker as the documented multi-sum over all `f : Fin n → Fin rank`, the core entry read at
    the row-major flat index `Tpl.flatIdx rank n f`. -/
theorem tucker_formula_fun (n rank : ℕ) (core : ℕ → R) (A : ℕ → ℕ → V → R) (x : ℕ → V) :
    (Tpl.tuckerNode n rank core A).eval (Ops.ofCommSemiring R) x 0
      = ∑ f : Fin n → Fin rank,
          core (Tpl.flatIdx rank n f) * ∏ j : Fin n, A j.val (f j).val (x j.val) :=
  (tucker_formula n rank core A x).trans <|
    Tpl.sum_range_pow_digits rank n fun c d => core c * ∏ j : Fin n, A j.val (d j) (x j.val)

theorem flatIdx_spec (k n : ℕ) (f : Fin n → Fin k) :
    Tpl.flatIdx k n f = ∑ j : Fin n, (f j).val * k ^ (n - 1 - j.val)
      ∧ Tpl.flatIdx k n f < k ^ n
      ∧ ∀ j : Fin n, digit k n j.val (Tpl.flatIdx k n f) = (f j).val :=
  ⟨rfl, Tpl.flatIdx_lt k n f, Tpl.digit_flatIdx k n f⟩

/-! The recursions `Tpl.ttVec`, `Tpl.ttVal`, `Tpl.hmmBack` of the model, over a commutative
  semiring, with their sums as `Finset` sums. -/

theorem tt_vec_zero (rank : ℕ) (first : ℕ → V → R) (G : ℕ → ℕ → ℕ → V → R) (x : ℕ → V) (r : ℕ) :
    Tpl.ttVec (Ops.ofCommSemiring R) rank first G x 0 r = first r (x 0) := rfl

theorem tt_vec_succ (rank : ℕ) (first : ℕ → V → R) (G : ℕ → ℕ → ℕ → V → R) (x : ℕ → V)
    (m q : ℕ) :
    Tpl.ttVec (Ops.ofCommSemiring R) rank first G x (m + 1) q
      = ∑ r ∈ Finset.range rank,
          Tpl.ttVec (Ops.ofCommSemiring R) rank first G x m r * G (m + 1) q r (x (m + 1)) := by
  simp only [Tpl.ttVec, sumN_eq, ofCS_mul]

theorem tt_val (inner rank : ℕ) (first : ℕ → V → R) (G : ℕ → ℕ → ℕ → V → R)
    (last : ℕ → V → R) (x : ℕ → V) :
    Tpl.ttVal (Ops.ofCommSemiring R) inner rank first G last x
      = ∑ r ∈ Finset.range rank,
          Tpl.ttVec (Ops.ofCommSemiring R) rank first G x inner r * last r (x (inner + 1)) := by
  simp only [Tpl.ttVal, sumN_eq, ofCS_mul]

theorem hmm_back_last (K : ℕ) (E : ℕ → ℕ → V → R) (T : ℕ → ℕ → ℕ → R) (x : ℕ → V)
    (pos u o : ℕ) :
    Tpl.hmmBack (Ops.ofCommSemiring R) K E T x pos u [] o
      = ∑ j ∈ Finset.range K, T pos o j * E u j (x u) := by
  simp only [Tpl.hmmBack, sumN_eq, ofCS_mul]

theorem hmm_back_step (K : ℕ) (E : ℕ → ℕ → V → R) (T : ℕ → ℕ → ℕ → R) (x : ℕ → V)
    (pos u w : ℕ) (rest : List ℕ) (o : ℕ) :
    Tpl.hmmBack (Ops.ofCommSemiring R) K E T x pos u (w :: rest) o
      = ∑ j ∈ Finset.range K, T pos o j
          * (Tpl.hmmBack (Ops.ofCommSemiring R) K E T x (pos + 1) w rest j * E u j (x u)) := by
  simp only [Tpl.hmmBack, sumN_eq, ofCS_mul]

theorem ttChain_eval (rank : ℕ) (first : ℕ → V → R) (G : ℕ → ℕ → ℕ → V → R) (x : ℕ → V)
    (m : ℕ) : ∀ q, q < rank →
    (Tpl.ttChain (Ops.ofCommSemiring R) rank first G m).eval (Ops.ofCommSemiring R) x q
      = Tpl.ttVec (Ops.ofCommSemiring R) rank first G x m q := by
  induction m with
  | zero => intro q _; rfl
  | succ m ih =>
    intro q hq
    rw [tt_vec_succ, Tpl.ttChain, Tpl.eval_blockOnes x rank _ ⟨q, hq⟩]
    refine Finset.sum_congr rfl fun j hj => ?_
    rw [Node.eval_had_pair, Node.eval_leaf, ih j (Finset.mem_range.mp hj)]

/-- Tensor train (`tensor_train(shape, rank)` with `n = inner + 2` modes, variables `0 … n-1`):
    the circuit computes the left-to-right contraction `Tpl.ttVal` (`tt_vec_zero`, `tt_vec_succ`,
    `tt_val`), where `G m q` is inner embedding number `q` of mode `m`, with `rank` units indexed
    by `r`.  `inner = 0` is the case `n = 2` (only the final dot product). -/
theorem tt_formula (inner rank : ℕ) (first : ℕ → V → R) (G : ℕ → ℕ → ℕ → V → R)
    (last : ℕ → V → R) (x : ℕ → V) :
    (Tpl.ttNode (Ops.ofCommSemiring R) inner rank first G last).eval (Ops.ofCommSemiring R) x 0
      = Tpl.ttVal (Ops.ofCommSemiring R) inner rank first G last x := by
  rw [tt_val, Tpl.ttNode, Node.eval_dense]
  refine Finset.sum_congr rfl fun r hr => ?_
  rw [ofCS_one, one_mul, Node.eval_had_pair, Node.eval_leaf,
    ttChain_eval rank first G x inner r (Finset.mem_range.mp hr)]

/-- Stated for every `w`: the induction peels the last step (`Tpl.pathSum_snoc`), as `Tpl.ttVec`
    does, and that changes `w`. -/
theorem ttVec_pathSum (rank : ℕ) (first : ℕ → V → R) (G : ℕ → ℕ → ℕ → V → R) (x : ℕ → V)
    (m : ℕ) : ∀ w : ℕ → R,
    ∑ r ∈ range rank, Tpl.ttVec (Ops.ofCommSemiring R) rank first G x m r * w r
      = Tpl.pathSum rank (fun i a b => G (i + 1) b a (x (i + 1))) m (fun r => first r (x 0)) w := by
  induction m with
  | zero => intro w; rfl
  | succ m ih =>
    intro w
    rw [Tpl.pathSum_snoc, ← ih]
    simp only [tt_vec_succ, Finset.sum_mul, Finset.mul_sum]
    rw [Finset.sum_comm]
    exact Finset.sum_congr rfl fun r _ => Finset.sum_congr rfl fun q _ => mul_assoc _ _ _

/-- Tensor train as the documented sum over all bond indices `r_0, …, r_{n-2}`. -/
theorem tt_joint (inner rank : ℕ) (first : ℕ → V → R) (G : ℕ → ℕ → ℕ → V → R)
    (last : ℕ → V → R) (x : ℕ → V) :
    (Tpl.ttNode (Ops.ofCommSemiring R) inner rank first G last).eval (Ops.ofCommSemiring R) x 0
      = ∑ r : Fin (inner + 1) → Fin rank,
          first (r 0).val (x 0)
            * (∏ i : Fin inner,
                G (i.val + 1) (r i.succ).val (r i.castSucc).val (x (i.val + 1)))
            * last (r (Fin.last inner)).val (x (inner + 1)) := by
  rw [tt_formula, tt_val, ttVec_pathSum, Tpl.pathSum_eq_sum]

theorem hmmFrom_eval (K : ℕ) (E : ℕ → ℕ → V → R) (T : ℕ → ℕ → ℕ → R) (x : ℕ → V)
    (rest : List ℕ) : ∀ (pos v i : ℕ),
    (Tpl.hmmFrom K E T pos v rest).eval (Ops.ofCommSemiring R) x i
      = Tpl.hmmBack (Ops.ofCommSemiring R) K E T x pos v rest i := by
  induction rest with
  | nil => intro pos v i; rw [hmm_back_last, Tpl.hmmFrom, Node.eval_dense]; rfl
  | cons w rest ih =>
    intro pos v i
    rw [hmm_back_step, Tpl.hmmFrom, Node.eval_dense]
    refine Finset.sum_congr rfl fun j _ => ?_
    rw [Node.eval_had_pair, ih, Node.eval_leaf]

/-- HMM (`hmm(ordering, num_latent_states = K)`, ordering `v :: rest`): output unit `0` of the
    circuit is the backward message `β_0[0]` of `Tpl.hmmBack` (`hmm_back_last`, `hmm_back_step`).
    Variable `ordering[pos]` uses emission function number `ordering[pos]` (`E u`: the input layer
    and per-variable arguments of variable id `u`) and is read at `x (ordering[pos])`; `T pos` is
    the weight of the sum layer of position `pos`.  Only hypothesis: the ordering is non-empty (it
    is `v :: rest`). -/
theorem hmm_formula (K : ℕ) (E : ℕ → ℕ → V → R) (T : ℕ → ℕ → ℕ → R) (v : ℕ) (rest : List ℕ)
    (x : ℕ → V) :
    (Tpl.hmmNode K E T (v :: rest)).eval (Ops.ofCommSemiring R) x 0
      = Tpl.hmmBack (Ops.ofCommSemiring R) K E T x 0 v rest 0 :=
  hmmFrom_eval K E T x rest 0 v 0

/-- The backward message is a sum over hidden paths: the first step carries the entering
    transition and the first emission, step `i + 1` the transition into position `pos + 1 + i` and
    the emission there. -/
theorem hmmBack_pathSum (K : ℕ) (E : ℕ → ℕ → V → R) (T : ℕ → ℕ → ℕ → R) (x : ℕ → V)
    (rest : List ℕ) : ∀ pos v o : ℕ,
    Tpl.hmmBack (Ops.ofCommSemiring R) K E T x pos v rest o
      = Tpl.pathSum K (fun i a b => T (pos + 1 + i) a b * E (rest.getD i 0) b (x (rest.getD i 0)))
          rest.length (fun j => T pos o j * E v j (x v)) (fun _ => 1) := by
  induction rest with
  | nil =>
    intro pos v o
    rw [hmm_back_last, List.length_nil, Tpl.pathSum]
    simp only [mul_one]
  | cons w rest ih =>
    intro pos v o
    rw [hmm_back_step, List.length_cons, Tpl.pathSum]
    refine Finset.sum_congr rfl fun j _ => ?_
    -- on the right, `(T · E) · P` becomes `T · (P · E)`
    rw [ih, mul_right_comm, mul_assoc]
    -- left: the two `pathSum`s have the same `M` up to `pos + 1 + (i + 1) = pos + 1 + 1 + i` and
    -- `getD` of a cons
    simp only [List.getD_cons_succ, List.getD_cons_zero, Nat.add_zero, Nat.add_assoc,
      Nat.add_comm 1]

/-- HMM as the joint probability, summed over all hidden state sequences: row 0 of the first sum
    layer is the initial distribution, `T (i + 1)` the transition table into position `i + 1`, and
    position `i` emits variable `ordering[i]` with emission function number `ordering[i]`. -/
theorem hmm_joint (K : ℕ) (E : ℕ → ℕ → V → R) (T : ℕ → ℕ → ℕ → R) (v : ℕ) (rest : List ℕ)
    (x : ℕ → V) :
    (Tpl.hmmNode K E T (v :: rest)).eval (Ops.ofCommSemiring R) x 0
      = ∑ z : Fin (rest.length + 1) → Fin K,
          T 0 0 (z 0).val
            * (∏ i : Fin rest.length, T (i.val + 1) (z i.castSucc).val (z i.succ).val)
            * ∏ i : Fin (rest.length + 1),
                E ((v :: rest).get i) (z i).val (x ((v :: rest).get i)) := by
  rw [hmm_formula, hmmBack_pathSum, Tpl.pathSum_eq_sum]
  refine Finset.sum_congr rfl fun z _ => ?_
  -- for one path the left side is `(T₀ · E₀) · ∏ (T_{i+1} · E_{i+1}) · 1`: split the product,
  -- peel `E₀` off the emissions on the right, and
  -- `(T₀ · E₀) · (∏ T · ∏ E) = (T₀ · ∏ T) · (E₀ · ∏ E)`
  rw [Finset.prod_mul_distrib, Fin.prod_univ_succ, mul_one, mul_mul_mul_comm]
  -- index bookkeeping: `0 + 1 + i` is `i + 1`, `rest.getD i 0` is `(v :: rest).get i.succ`
  simp only [Nat.zero_add, Nat.add_comm 1, List.get_cons_succ', List.get_cons_zero,
    List.getD_eq_getElem _ _ (Fin.is_lt _), ← List.get_eq_getElem]

/-- Fully factorised (`fully_factorized(n)`): variable id `i` uses unit function number `i` (its
    own input layer / kwargs).  Holds for every `n` (for `n = 1` the circuit is the single input
    layer; the real template rejects `n = 0`). -/
theorem ff_formula (n : ℕ) (F : ℕ → V → R) (x : ℕ → V) :
    (Tpl.ffNode n F).eval (Ops.ofCommSemiring R) x 0 = ∏ j : Fin n, F j.val (x j.val) := by
  unfold Tpl.ffNode
  split
  · rename_i h; subst h
    rw [Fin.prod_univ_one]; rfl
  · simp only [Node.eval_had, Node.eval_leaf]

/-! The driver's `template` command evaluates the builders with `Node.evalV`; on these
  (well-formed, single-output) trees entry 0 of the result is `Node.eval … 0`, over any operation
  record. -/

theorem template_evalV_cp {S : Type} (o : Ops S) (n rank : ℕ) (w : ℕ → S) (A : ℕ → ℕ → V → S)
    (x : ℕ → V) (d : S) :
    ((Tpl.cpNode n rank w A).evalV o x).size = 1
      ∧ ((Tpl.cpNode n rank w A).evalV o x).getD 0 d = (Tpl.cpNode n rank w A).eval o x 0 :=
  Node.evalV_single o x _ (Tpl.cpNode_wf n rank w A) d

theorem template_evalV_tucker {S : Type} (o : Ops S) (n rank : ℕ) (core : ℕ → S)
    (A : ℕ → ℕ → V → S) (x : ℕ → V) (d : S) :
    ((Tpl.tuckerNode n rank core A).evalV o x).size = 1
      ∧ ((Tpl.tuckerNode n rank core A).evalV o x).getD 0 d
          = (Tpl.tuckerNode n rank core A).eval o x 0 :=
  Node.evalV_single o x _ (Tpl.tuckerNode_wf n rank core A) d

theorem template_evalV_tt {S : Type} (o : Ops S) (inner rank : ℕ) (first : ℕ → V → S)
    (G : ℕ → ℕ → ℕ → V → S) (last : ℕ → V → S) (x : ℕ → V) (d : S) :
    ((Tpl.ttNode o inner rank first G last).evalV o x).size = 1
      ∧ ((Tpl.ttNode o inner rank first G last).evalV o x).getD 0 d
          = (Tpl.ttNode o inner rank first G last).eval o x 0 :=
  Node.evalV_single o x _ (Tpl.ttNode_wf o inner rank first G last) d

theorem template_evalV_hmm {S : Type} (o : Ops S) (K : ℕ) (E : ℕ → ℕ → V → S)
    (T : ℕ → ℕ → ℕ → S) (v : ℕ) (rest : List ℕ) (x : ℕ → V) (d : S) :
    ((Tpl.hmmNode K E T (v :: rest)).evalV o x).size = 1
      ∧ ((Tpl.hmmNode K E T (v :: rest)).evalV o x).getD 0 d
          = (Tpl.hmmNode K E T (v :: rest)).eval o x 0 :=
  Node.evalV_single o x _ (Tpl.hmmNode_wf K E T v rest) d

theorem template_evalV_ff {S : Type} (o : Ops S) (n : ℕ) (F : ℕ → V → S) (x : ℕ → V) (d : S) :
    ((Tpl.ffNode n F).evalV o x).size = 1
      ∧ ((Tpl.ffNode n F).evalV o x).getD 0 d = (Tpl.ffNode n F).eval o x 0 :=
  Node.evalV_single o x _ (Tpl.ffNode_wf n F) d

/-! Concrete instances over ℕ (index tuple `x = (1, 0, 1, 1, …)`).  Each instance is evaluated
  twice: the circuit directly (the kernel runs `Node.eval`), and through the theorem (the
  right-hand side is evaluated). -/

/-- the index tuple used below: `x_1 = 0`, every other `x_v = 1` -/
def xs : ℕ → ℕ := fun v => if v = 1 then 0 else 1

/-- `cpNode_eval`: three modes, rank 2, weights `(1, 2)` -/
example : (Tpl.cpNode 3 2 (fun c => c + 1) (fun j r (a : ℕ) => (j + 1) * (r + 1) + a)).eval
    (Ops.ofCommSemiring ℕ) xs 0 = 184 := by decide +kernel
example : (Tpl.cpNode 3 2 (fun c => c + 1) (fun j r (a : ℕ) => (j + 1) * (r + 1) + a)).eval
    (Ops.ofCommSemiring ℕ) xs 0 = 184 := by rw [cpNode_eval]; decide +kernel

/-- `tucker_formula`, `tucker_formula_fun`: three modes, rank 2, core `1 … 8` -/
example : (Tpl.tuckerNode 3 2 (fun c => c + 1) (fun j r (a : ℕ) => (j + 1) * (r + 1) + a)).eval
    (Ops.ofCommSemiring ℕ) xs 0 = 1772 := by decide +kernel
example : (Tpl.tuckerNode 3 2 (fun c => c + 1) (fun j r (a : ℕ) => (j + 1) * (r + 1) + a)).eval
    (Ops.ofCommSemiring ℕ) xs 0 = 1772 := by rw [tucker_formula]; decide +kernel
example : (Tpl.tuckerNode 3 2 (fun c => c + 1) (fun j r (a : ℕ) => (j + 1) * (r + 1) + a)).eval
    (Ops.ofCommSemiring ℕ) xs 0 = 1772 := by rw [tucker_formula_fun]; decide +kernel

/-- `tt_formula`, `tt_joint`: `n = 2` (dot product only), `n = 3`, `n = 4`; rank 2 -/
example : (Tpl.ttNode (Ops.ofCommSemiring ℕ) 0 2 (fun r (a : ℕ) => r + a + 1)
    (fun m q r a => q + 2 * r + a + m) (fun r a => 2 * r + a + 1)).eval
    (Ops.ofCommSemiring ℕ) xs 0 = 11 := by decide +kernel
example : (Tpl.ttNode (Ops.ofCommSemiring ℕ) 1 2 (fun r (a : ℕ) => r + a + 1)
    (fun m q r a => q + 2 * r + a + m) (fun r a => 2 * r + a + 1)).eval
    (Ops.ofCommSemiring ℕ) xs 0 = 86 := by decide +kernel
example : (Tpl.ttNode (Ops.ofCommSemiring ℕ) 2 2 (fun r (a : ℕ) => r + a + 1)
    (fun m q r a => q + 2 * r + a + m) (fun r a => 2 * r + a + 1)).eval
    (Ops.ofCommSemiring ℕ) xs 0 = 786 := by rw [tt_formula]; decide +kernel
example : (Tpl.ttNode (Ops.ofCommSemiring ℕ) 2 2 (fun r (a : ℕ) => r + a + 1)
    (fun m q r a => q + 2 * r + a + m) (fun r a => 2 * r + a + 1)).eval
    (Ops.ofCommSemiring ℕ) xs 0 = 786 := by rw [tt_joint]; decide +kernel

/-- `hmm_formula`, `hmm_joint`: ordering `(2, 0, 1)`, two latent states; and a single variable
    with id 5 -/
example : (Tpl.hmmNode 2 (fun v r (a : ℕ) => v + r + a + 1) (fun pos o j => pos + 2 * o + j + 1)
    [2, 0, 1]).eval (Ops.ofCommSemiring ℕ) xs 0 = 6936 := by decide +kernel
example : (Tpl.hmmNode 2 (fun v r (a : ℕ) => v + r + a + 1) (fun pos o j => pos + 2 * o + j + 1)
    [2, 0, 1]).eval (Ops.ofCommSemiring ℕ) xs 0 = 6936 := by rw [hmm_formula]; decide +kernel
example : (Tpl.hmmNode 2 (fun v r (a : ℕ) => v + r + a + 1) (fun pos o j => pos + 2 * o + j + 1)
    [2, 0, 1]).eval (Ops.ofCommSemiring ℕ) xs 0 = 6936 := by rw [hmm_joint]; decide +kernel
example : (Tpl.hmmNode 2 (fun v r (a : ℕ) => v + r + a + 1) (fun pos o j => pos + 2 * o + j + 1)
    [5]).eval (Ops.ofCommSemiring ℕ) xs 0 = 23 := by rw [hmm_joint]; decide +kernel

/-- `ff_formula`: three variables; one variable -/
example : (Tpl.ffNode 3 (fun i (a : ℕ) => i + a + 2)).eval (Ops.ofCommSemiring ℕ) xs 0 = 45 := by
  rw [ff_formula]; decide +kernel
example : (Tpl.ffNode 1 (fun i (a : ℕ) => i + a + 2)).eval (Ops.ofCommSemiring ℕ) xs 0 = 3 := by
  decide +kernel

/-- the order of the ordering matters (per-variable emission functions are looked up by id):
    the orderings `(2, 0, 1)` and `(0, 1, 2)` give different values on the same instance -/
example : (Tpl.hmmNode 2 (fun v r (a : ℕ) => v + r + a + 1) (fun pos o j => pos + 2 * o + j + 1)
    [0, 1, 2]).eval (Ops.ofCommSemiring ℕ) xs 0 ≠ 6936 := by decide +kernel

end Cirkit.C20
