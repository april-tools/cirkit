/-
  C18 — the compiler registry and the pipeline context: each symbolic circuit is compiled at most
  once per context, the symbolic ↔ compiled association is a bijection that can be queried both
  ways, operands are compiled before their consumers, and `with ctx:` blocks restore the previously
  active context.

  Theorems are about the state machine `PState.step` / `PState.run` of
  `CirkitModel.Model.Registry`, which mirrors `cirkit/pipeline.py` (`PipelineContext`: one compiler
  per context object, `compile`, operator functions on compiled circuits, `__enter__`/`__exit__`
  with a `ContextVar` token), `cirkit/backend/compiler.py` (`CompiledCircuitsMap`, a `BiMap`;
  `compile` = look up or `compile_pipeline`), `compile_pipeline` of the torch backend, and
  `pipeline_topological_ordering` (`bfs` + Kahn's algorithm of `cirkit/utils/algorithms.py`,
  modelled literally by `bfsOrder`, `kahn`, `pipelineOrder` with the fuel the driver passes).

  The invariant `PState.Inv` and the ordering invariant `PState.LogTopo` (in the compile log every
  circuit is preceded by all of its operands, same context) are defined, field by field, in
  `CirkitModel.Spec.Graphs`.  The invariant is preserved by every operation, also the refused
  ones.  `compile_registers` needs no extra hypothesis: it rests on `pipelineOrder_spec`
  (`CirkitModel.Proofs.PipelineOrder`: `bfs` + Kahn's algorithm are complete on a DAG with the
  fuel the model passes).  `exit_restores` does not need its balance hypothesis `hbal` ("`c` is
  active again at the end of the body"): only `enter c`/`exit c` touch the token of `c`
  (`PState.step_token`), and `exit c` restores what the token holds (`PState.exit_enter`);
  `exit_restores_wb` derives `hbal` for a syntactically well-bracketed body (`PState.WB`).
-/
import CirkitModel.Proofs.Registry

namespace Cirkit.C18
open PState

theorem inv_init : (({} : PState)).Inv := PState.inv_init

theorem inv_step (s : PState) (op : POp') (h : s.Inv) : (s.step op).1.Inv :=
  (h.step_spec op).inv

theorem inv_run (ops : List POp') : ((({} : PState)).run ops).1.Inv := PState.inv_init.run ops

/-- The association can be queried in both directions and the two directions agree. -/
theorem bimap_bijection (s : PState) (h : s.Inv) (c sc cc : ℕ) :
    s.compiledOf c sc = some cc ↔ s.symbolicOf c cc = some sc :=
  h.bimap_bijection c sc cc

/-- A compiled circuit is known to one context only. -/
theorem compiled_ids_fresh (s : PState) (h : s.Inv) (c c' sc sc' cc : ℕ)
    (h1 : s.symbolicOf c cc = some sc) (h2 : s.symbolicOf c' cc = some sc') : c = c' := by
  by_contra hne
  exact h.cc_disjoint c c' hne _ ((h.symbolicOf_eq_some c cc sc).mp h1) _
    ((h.symbolicOf_eq_some c' cc sc').mp h2) rfl

set_option linter.unusedVariables false in
/-- Compiling the same symbolic circuit again returns the same compiled object and changes
    nothing (holds in every state). -/
theorem compile_idempotent (s : PState) (h : s.Inv) (c sc : ℕ) :
    let r := s.compile c sc
    ∀ cc, r.2 = .cc cc → (r.1.compile c sc) = (r.1, .cc cc) := by
  intro r cc hr
  exact PState.compile_idempotent s c sc cc hr

/-- `pipeline_topological_ordering([sc])` in a state satisfying the invariant
    (`pipelineOrder_spec` at `s.operandsOf`). -/
theorem pipelineOrder_complete (s : PState) (h : s.Inv) (sc : ℕ) (hsc : sc < s.operands.length) :
    sc ∈ pipelineOrder s.operandsOf (s.operands.length + 1) sc ∧
    (pipelineOrder s.operandsOf (s.operands.length + 1) sc).Nodup ∧
    (∀ x ∈ pipelineOrder s.operandsOf (s.operands.length + 1) sc, x < s.operands.length) ∧
    (∀ n ∈ pipelineOrder s.operandsOf (s.operands.length + 1) sc, ∀ o ∈ s.operandsOf n,
      o ∈ pipelineOrder s.operandsOf (s.operands.length + 1) sc) ∧
    (∀ l1 x l2, pipelineOrder s.operandsOf (s.operands.length + 1) sc = l1 ++ x :: l2 →
      ∀ o ∈ s.operandsOf x, o ∈ l1) := by
  obtain ⟨h1, h2, h3, h4, h5⟩ := pipelineOrder_spec s.operandsOf s.operands.length h.dag sc hsc
  exact ⟨h1, h3, h4, h5, h2⟩

/-- Compiling an existing circuit in an existing context returns a compiled circuit, which is
    then registered. -/
theorem compile_registers (s : PState) (h : s.Inv) (c sc : ℕ) (hsc : sc < s.operands.length)
    (hc : c < s.ctxs.length) :
    ∃ cc, (s.compile c sc).2 = .cc cc ∧ (s.compile c sc).1.compiledOf c sc = some cc :=
  h.compile_registers c sc hsc hc

/-- After any history, every entry `(c, sc)` of the compile log comes after the entries `(c, o)`
    of all operands `o` of `sc`. -/
theorem operands_compiled_first (ops : List POp') (l1 : List (ℕ × ℕ)) (c sc : ℕ)
    (l2 : List (ℕ × ℕ))
    (hlog : (({} : PState).run ops).1.compileLog = l1 ++ (c, sc) :: l2) :
    ∀ o ∈ (({} : PState).run ops).1.operandsOf sc, (c, o) ∈ l1 :=
  LogTopo.run PState.inv_init PState.logTopo_init ops l1 c sc l2 hlog

/-- After any history, every operand of a circuit compiled in a context is compiled in that
    context. -/
theorem operands_compiled (ops : List POp') (c sc : ℕ)
    (hk : ((({} : PState).run ops).1.compiledOf c sc).isSome) :
    ∀ o ∈ (({} : PState).run ops).1.operandsOf sc,
      ((({} : PState).run ops).1.compiledOf c o).isSome :=
  (PState.inv_init.run ops).operands_compiled
    (LogTopo.run PState.inv_init PState.logTopo_init ops) c sc hk

/-- Each circuit is compiled at most once per context over the whole history. -/
theorem compile_once (ops : List POp') : (({} : PState).run ops).1.compileLog.Nodup :=
  (inv_run ops).log_nodup

set_option linter.unusedVariables false in
/-- Whatever happens inside the block, leaving it restores the context that was active before
    entering it.  (`hbal` is not needed.) -/
theorem exit_restores (s : PState) (c : ℕ) (body : List POp') (hc : c < s.ctxs.length)
    (hfree : (s.ctx c).token = none)
    (hbody : ∀ op ∈ body, op ≠ .enter c ∧ op ≠ .exit c)
    (hbal : ((s.step (.enter c)).1.run body).1.active = c) :
    (((s.step (.enter c)).1.run body).1.step (.exit c)).1.active = s.active :=
  (exit_enter s c hfree _ (run_token _ body c hbody) fun h => absurd hc h).1

/-- A syntactically well-bracketed history (`PState.WB busy`: blocks nest and never enter a
    context of `busy` or one they are inside of) leaves the active context and every token
    unchanged, if all contexts outside `busy` are free at the start. -/
theorem wb_restores (busy : List ℕ) (ops : List POp') (hwb : WB busy ops) (s : PState)
    (hfree : ∀ c, c ∉ busy → (s.ctx c).token = none) :
    (s.run ops).1.active = s.active ∧ ∀ c, ((s.run ops).1.ctx c).token = (s.ctx c).token :=
  hwb.run_restores s hfree

/-- `exit_restores` with the balance hypothesis derived from syntactic well-bracketedness of
    the body: at the end of the body `c` is active again, and leaving restores the previously
    active context. -/
theorem exit_restores_wb (s : PState) (c : ℕ) (body : List POp') (busy : List ℕ)
    (hc : c < s.ctxs.length) (hfree : ∀ c', c' ∉ busy → (s.ctx c').token = none) (hcb : c ∉ busy)
    (hwb : WB (c :: busy) body) :
    ((s.step (.enter c)).1.run body).1.active = c ∧
      (((s.step (.enter c)).1.run body).1.step (.exit c)).1.active = s.active :=
  hwb.exit_restores s hc hfree hcb

/-- After `enter c; exit c` the context is free again and the active context is unchanged. -/
theorem sequential_reuse (s : PState) (c : ℕ) (hc : c < s.ctxs.length)
    (hfree : (s.ctx c).token = none) :
    ((s.step (.enter c)).1.step (.exit c)).1.active = s.active ∧
      (((s.step (.enter c)).1.step (.exit c)).1.ctx c).token = none :=
  exit_enter s c hfree _ rfl fun h => absurd hc h

/-- Operator functions applied to compiled circuits return the compilation of the symbolic
    operator result. -/
theorem ccop_is_compile_of_symbolic (s : PState) (c : ℕ) (ccs scs : List ℕ)
    (hc : c < s.ctxs.length) (hne : ccs ≠ [])
    (hk : ccs.mapM (s.symbolicOf c) = some scs) :
    s.step (.ccOp (some c) ccs) =
      ({ s with operands := s.operands ++ [scs] }.compile c s.operands.length) := by
  rw [step_ccOp_ok s c ccs hc hne, hk]

/-- Operator functions refuse compiled circuits that are not known in the context. -/
theorem ccop_unknown_refused (s : PState) (c : ℕ) (ccs : List ℕ)
    (hc : c < s.ctxs.length) (hne : ccs ≠ [])
    (hk : ccs.mapM (s.symbolicOf c) = none) :
    s.step (.ccOp (some c) ccs) = (s, .error) := by
  rw [step_ccOp_ok s c ccs hc hne, hk]

/-- Non-vacuity: a concrete history (two base circuits, their product, a new context, compile
    inside a `with` block, query after the block). -/
example :
    (({} : PState).run [.newCircuit, .newCircuit, .symOp [0, 1], .newCtx, .enter 1,
        .compile none 2, .exit 1, .getCompiled (some 1) 2]).2 =
      [.sc 0, .sc 1, .sc 2, .ctx 1, .unit, .cc 2, .unit, .cc 2] := by
  rfl

example :
    (({} : PState).run [.newCircuit, .newCircuit, .symOp [0, 1], .newCtx, .enter 1,
        .compile none 2, .exit 1, .getCompiled (some 1) 2]).1.compileLog =
      [(1, 0), (1, 1), (1, 2)] := by
  decide +kernel

/-- … and this history is well bracketed. -/
example : WB [] [.newCircuit, .newCircuit, .symOp [0, 1], .newCtx, .enter 1,
    .compile none 2, .exit 1, .getCompiled (some 1) 2] :=
  .op _ _ _ (fun _ => nofun) (fun _ => nofun) <| .op _ _ _ (fun _ => nofun) (fun _ => nofun) <|
    .op _ _ _ (fun _ => nofun) (fun _ => nofun) <| .op _ _ _ (fun _ => nofun) (fun _ => nofun) <|
    .block [] 1 [.compile none 2] [.getCompiled (some 1) 2] List.not_mem_nil
      (.op _ _ _ (fun _ => nofun) (fun _ => nofun) (.nil _))
      (.op _ _ _ (fun _ => nofun) (fun _ => nofun) (.nil _))

end Cirkit.C18
