/-
  C06 — `evidence` conditions the denoted function; `concatenate` stacks outputs in order.

  Theorems are about the model (`CirkitModel.Model.Node`): `Node.evid obs` replaces every input
  layer over an observed variable by the constant layer of its values at the observation
  (`cirkit.symbolic.functional.evidence`).  The result denotes the operand with the observed
  variables fixed (`evidence_correct`, no structural hypotheses), its scope is the unobserved part
  of the scope (`evidence_scope`), unit counts and well-formedness are preserved, and the values
  supplied for observed variables are ignored (`evidence_ignores_unobserved_values`).
  `Circ.concat` (`concatenate`) returns the outputs of the operands in order
  (`concatenate_correct`, any operation record).
  Proofs: `CirkitModel.Proofs.Operators` (`evid_eq_close`, `evid_correct`).
-/
import CirkitModel.Proofs.Bridge
import CirkitModel.Proofs.Operators

namespace Cirkit.C06
variable {R V : Type} [CommSemiring R]

theorem evidence_correct (n : Node R V) (obs : ℕ → Option V) (y : ℕ → V) (i : ℕ) :
    (n.evid obs).eval (Ops.ofCommSemiring R) y i
      = n.eval (Ops.ofCommSemiring R) (fun u => (obs u).getD (y u)) i :=
  Node.evid_correct _ n obs y i

omit [CommSemiring R] in
theorem evidence_scope (n : Node R V) (obs : ℕ → Option V) (z : ℕ) :
    Node.Mem z (n.evid obs) ↔ (Node.Mem z n ∧ obs z = none) :=
  Node.mem_evid n obs z

omit [CommSemiring R] in
theorem evidence_units (n : Node R V) (obs : ℕ → Option V) : (n.evid obs).units = n.units :=
  Node.evid_eq_close n obs ▸ Node.close_units _ n

omit [CommSemiring R] in
theorem evidence_wf (n : Node R V) (obs : ℕ → Option V) (h : n.WF) : (n.evid obs).WF :=
  Node.evid_eq_close n obs ▸ Node.close_wf _ n h

theorem evidence_ignores_unobserved_values (n : Node R V) (obs : ℕ → Option V) (y y' : ℕ → V)
    (h : ∀ u, obs u = none → y u = y' u) (i : ℕ) :
    (n.evid obs).eval (Ops.ofCommSemiring R) y i = (n.evid obs).eval (Ops.ofCommSemiring R) y' i :=
  Node.evid_ignores _ n obs y y' h i

omit [CommSemiring R] in
theorem concatenate_correct {S : Type} (o : Ops S) (cs : List (Circ S V)) (x : ℕ → V) :
    ((Circ.concat cs).outputs.map fun n => n.evalV o x)
      = (cs.map fun c => c.outputs.map fun n => n.evalV o x).flatten := by
  simp only [Circ.concat, List.map_flatten, List.map_map]
  rfl

end Cirkit.C06
