/-
  C14 — parameter operators compute their documented tensor function.

  Theorems are about the model (`CirkitModel.Model.PExpr`, `CirkitModel.Model.Tensor`):
  `PExpr.applyOp A op args` is the value of one parameter node (`cirkit/symbolic/parameters.py`,
  `cirkit/backend/torch/parameters/nodes.py`) on evaluated arguments, over an arbitrary operation
  record `A : AOps R` (no algebraic laws are used: the statements are about *which entries are
  combined*, i.e. the index arithmetic of the row-major layout).

  "In range" always refers to the 3-d view `(outer, len, inner) = Tensor.split3 shape ax` of the
  *output* shape around the axis: `o < outer`, `a < len`, `i < inner`.

  * `index_get`                      — `r[o, j, i] = t[o, idx[j], i]`
  * `outerProduct_get`, `outerSum_get` (+ `_pair` row-major corollaries)
                                     — `r[o, a1*n2 + a2, i] = a[o, a1, i] ⊙ b[o, a2, i]`
  * `reduceSum_get`, `reduceProd_get`— `r[n] = Σ/Π_a t[n / inner, a, n % inner]`
  * `kron_getD` (any rank)           — `r[idx] = a[idx / b.shape] * b[idx % b.shape]`,
                                       componentwise
  * `kron_get` (rank 2)              — `r[i*m2 + k, j*n2 + l] = a[i, j] * b[k, l]`
  * `mixing_get`                     — `r[k, h*K + k'] = if k' = k then t[k, h] else 0`
  * `polyProduct_get`                — coefficient `n` of row `r1*k2 + r2` is the convolution
  * `polyDiff_get`, `polyDiff_get_le`— falling-factorial coefficients / the zero polynomial
  * `square_get`, `conj_get`, `sum_get`, `hadamard_get` — entrywise operators
  * `shape_sound`                    — evaluation returns a tensor of the symbolic shape
  * `eval_app`                       — a composite graph evaluates to the composition of its nodes
  * `softmax_rowsum`                 — algebraic core of softmax: rows sum to one (over a field)

  Note on `PExpr.eval`: its optional argument `pre` comes *before* the expression, so the theorems
  quantify over an arbitrary `pre` (the default is `id`).
  Read-back lemmas for `ofFn` / `ofFn3`, the equation of `applyOp` at each operator and the
  recursion behind `shape_sound`: `CirkitModel.Proofs.Tensor`.
-/
import Mathlib.Algebra.BigOperators.Field
import CirkitModel.Proofs.Tensor
import CirkitModel.Model.Num

open Finset

namespace Cirkit.C14
open Tensor PExpr
variable {R : Type}

theorem index_get (A : AOps R) (idx : List Nat) (ax : Nat) (t r : Tensor R)
    (h : applyOp A (.index idx ax) [t] = some r) (hax : ax < t.shape.length) :
    r.shape = t.shape.set ax idx.length ∧
    ∀ o j i, o < (split3 r.shape ax).1 → j < idx.length → i < (split3 r.shape ax).2.2 →
      r.get3 ax o j i A.zero = t.get3 ax o (idx.getD j 0) i A.zero := by
  rw [applyOp_index, if_pos hax] at h
  cases h
  exact ⟨rfl, fun o j i ho hj hi => get3_ofFn3_set hax o j i ho hj hi _⟩

theorem outerProduct_get (A : AOps R) (ax : Nat) (a b r : Tensor R)
    (h : applyOp A (.outerProduct ax) [a, b] = some r)
    (hl : a.shape.length = b.shape.length) (hax : ax < a.shape.length) :
    r.shape = a.shape.set ax (a.shape[ax] * b.shape[ax]'(hl ▸ hax)) ∧
    ∀ o c i, o < (split3 r.shape ax).1 → c < a.shape[ax] * b.shape[ax]'(hl ▸ hax) →
      i < (split3 r.shape ax).2.2 →
      r.get3 ax o c i A.zero
        = A.mul (a.get3 ax o (c / b.shape.getD ax 1) i A.zero)
            (b.get3 ax o (c % b.shape.getD ax 1) i A.zero) := by
  rw [applyOp_outerProduct, if_pos ⟨hl, hax⟩, List.getD_eq_getElem _ _ hax,
    List.getD_eq_getElem _ 0 (hl ▸ hax)] at h
  cases h
  exact ⟨rfl, fun o c i ho hc hi => get3_ofFn3_set hax o c i ho hc hi _⟩

/-- row-major pair form: entry `a1 * n2 + a2` combines entries `a1` of `a` and `a2` of `b` -/
theorem outerProduct_get_pair (A : AOps R) (ax : Nat) (a b r : Tensor R)
    (h : applyOp A (.outerProduct ax) [a, b] = some r)
    (hl : a.shape.length = b.shape.length) (hax : ax < a.shape.length)
    (o a1 a2 i : Nat) (ho : o < (split3 r.shape ax).1) (h1 : a1 < a.shape[ax])
    (h2 : a2 < b.shape[ax]'(hl ▸ hax)) (hi : i < (split3 r.shape ax).2.2) :
    r.get3 ax o (a1 * b.shape[ax]'(hl ▸ hax) + a2) i A.zero
      = A.mul (a.get3 ax o a1 i A.zero) (b.get3 ax o a2 i A.zero) := by
  rw [(outerProduct_get A ax a b r h hl hax).2 o _ i ho (pair_lt h1 h2) hi,
    List.getD_eq_getElem _ _ (hl ▸ hax), div_of_lt_add h2, Nat.mul_add_mod_of_lt h2]

theorem outerSum_get (A : AOps R) (ax : Nat) (a b r : Tensor R)
    (h : applyOp A (.outerSum ax) [a, b] = some r)
    (hl : a.shape.length = b.shape.length) (hax : ax < a.shape.length) :
    r.shape = a.shape.set ax (a.shape[ax] * b.shape[ax]'(hl ▸ hax)) ∧
    ∀ o c i, o < (split3 r.shape ax).1 → c < a.shape[ax] * b.shape[ax]'(hl ▸ hax) →
      i < (split3 r.shape ax).2.2 →
      r.get3 ax o c i A.zero
        = A.add (a.get3 ax o (c / b.shape.getD ax 1) i A.zero)
            (b.get3 ax o (c % b.shape.getD ax 1) i A.zero) := by
  rw [applyOp_outerSum, if_pos ⟨hl, hax⟩, List.getD_eq_getElem _ _ hax,
    List.getD_eq_getElem _ 0 (hl ▸ hax)] at h
  cases h
  exact ⟨rfl, fun o c i ho hc hi => get3_ofFn3_set hax o c i ho hc hi _⟩

theorem outerSum_get_pair (A : AOps R) (ax : Nat) (a b r : Tensor R)
    (h : applyOp A (.outerSum ax) [a, b] = some r)
    (hl : a.shape.length = b.shape.length) (hax : ax < a.shape.length)
    (o a1 a2 i : Nat) (ho : o < (split3 r.shape ax).1) (h1 : a1 < a.shape[ax])
    (h2 : a2 < b.shape[ax]'(hl ▸ hax)) (hi : i < (split3 r.shape ax).2.2) :
    r.get3 ax o (a1 * b.shape[ax]'(hl ▸ hax) + a2) i A.zero
      = A.add (a.get3 ax o a1 i A.zero) (b.get3 ax o a2 i A.zero) := by
  rw [(outerSum_get A ax a b r h hl hax).2 o _ i ho (pair_lt h1 h2) hi,
    List.getD_eq_getElem _ _ (hl ▸ hax), div_of_lt_add h2, Nat.mul_add_mod_of_lt h2]

theorem reduceSum_get (A : AOps R) (ax : Nat) (t r : Tensor R)
    (h : applyOp A (.reduceSum ax) [t] = some r) :
    r.shape = t.shape.eraseIdx ax ∧
    ∀ n < shapeSize r.shape, r.data.getD n A.zero
      = A.toOps.sumN (split3 t.shape ax).2.1 (fun a =>
          t.get3 ax (n / (split3 t.shape ax).2.2) a (n % (split3 t.shape ax).2.2) A.zero) := by
  rw [applyOp_reduceSum] at h
  obtain ⟨-, rfl⟩ := of_ite_some h
  exact ⟨rfl, fun n hn => getD_arrayOfFn _ n hn _⟩

theorem reduceProd_get (A : AOps R) (ax : Nat) (t r : Tensor R)
    (h : applyOp A (.reduceProd ax) [t] = some r) :
    r.shape = t.shape.eraseIdx ax ∧
    ∀ n < shapeSize r.shape, r.data.getD n A.zero
      = A.toOps.prodN (split3 t.shape ax).2.1 (fun a =>
          t.get3 ax (n / (split3 t.shape ax).2.2) a (n % (split3 t.shape ax).2.2) A.zero) := by
  rw [applyOp_reduceProd] at h
  obtain ⟨-, rfl⟩ := of_ite_some h
  exact ⟨rfl, fun n hn => getD_arrayOfFn _ n hn _⟩

/-- Any rank: entry `idx` of the result combines entries `idx / b.shape` of `a` and
    `idx % b.shape` of `b` (componentwise). -/
theorem kron_getD (A : AOps R) (a b r : Tensor R) (h : applyOp A .kronecker [a, b] = some r) :
    r.shape = List.zipWith (· * ·) a.shape b.shape ∧
    ∀ idx, List.Forall₂ (· < ·) idx (List.zipWith (· * ·) a.shape b.shape) →
      r.getD idx A.zero = A.mul (a.getD (List.zipWith (· / ·) idx b.shape) A.zero)
        (b.getD (List.zipWith (· % ·) idx b.shape) A.zero) := by
  rw [applyOp_kronecker] at h
  obtain ⟨-, rfl⟩ := of_ite_some h
  exact ⟨rfl, fun idx hidx => getD_ofFn_forall₂ _ _ hidx⟩

theorem kron_get (A : AOps R) (a b r : Tensor R) (m1 n1 m2 n2 : Nat)
    (h : applyOp A .kronecker [a, b] = some r) (ha : a.shape = [m1, n1]) (hb : b.shape = [m2, n2]) :
    r.shape = [m1 * m2, n1 * n2] ∧
    ∀ i k j l, i < m1 → k < m2 → j < n1 → l < n2 →
      r.get2 (i * m2 + k) (j * n2 + l) A.zero
        = A.mul (a.get2 i j A.zero) (b.get2 k l A.zero) := by
  obtain ⟨hs, hr⟩ := kron_getD A a b r h
  rw [ha, hb] at hs hr
  refine ⟨hs, fun i k j l hi hk hj hl => ?_⟩
  rw [← getD_pair r _ _ _ _ _ hs, ← getD_pair a _ _ _ _ _ ha, ← getD_pair b _ _ _ _ _ hb,
    hr _ (.cons (pair_lt hi hk) (.cons (pair_lt hj hl) .nil))]
  simp only [List.zipWith, div_of_lt_add hk, div_of_lt_add hl, Nat.mul_add_mod_of_lt hk, Nat.mul_add_mod_of_lt hl]

theorem mixing_get (A : AOps R) (t r : Tensor R) (K H : Nat)
    (h : applyOp A .mixing [t] = some r) (ht : t.shape = [K, H]) :
    r.shape = [K, K * H] ∧
    ∀ k h k', k < K → h < H → k' < K →
      r.get2 k (h * K + k') A.zero = if k' = k then t.get2 k h A.zero else A.zero := by
  rw [applyOp_mixing A t K H ht] at h
  cases h
  refine ⟨rfl, fun k h k' hk hh hk' => ?_⟩
  rw [get2_ofFn hk (by rw [Nat.mul_comm K H]; exact pair_lt hh hk')]
  simp only [div_of_lt_add hk', Nat.mul_add_mod_of_lt hk']

theorem polyProduct_get (A : AOps R) (a b r : Tensor R) (k1 d1 k2 d2 : Nat)
    (h : applyOp A .polyProduct [a, b] = some r)
    (ha : a.shape = [k1, d1]) (hb : b.shape = [k2, d2]) :
    r.shape = [k1 * k2, d1 + d2 - 1] ∧
    ∀ r1 r2 n, r1 < k1 → r2 < k2 → n < d1 + d2 - 1 →
      r.get2 (r1 * k2 + r2) n A.zero
        = A.toOps.sumN d1 (fun p =>
            if p ≤ n ∧ n - p < d2 then A.mul (a.get2 r1 p A.zero) (b.get2 r2 (n - p) A.zero)
            else A.zero) := by
  rw [applyOp_polyProduct A a b k1 d1 k2 d2 ha hb] at h
  cases h
  refine ⟨rfl, fun r1 r2 n h1 h2 hn => ?_⟩
  rw [get2_ofFn (pair_lt h1 h2) hn]
  simp only [div_of_lt_add h2, Nat.mul_add_mod_of_lt h2]

theorem polyDiff_get (A : AOps R) (t r : Tensor R) (ord k d : Nat)
    (h : applyOp A (.polyDiff ord) [t] = some r) (ht : t.shape = [k, d]) (hd : d > ord) :
    r.shape = [k, d - ord] ∧
    ∀ r0 n, r0 < k → n < d - ord →
      r.get2 r0 n A.zero
        = A.mul (PExpr.fallR A (n + ord) ord) (t.get2 r0 (n + ord) A.zero) := by
  rw [applyOp_polyDiff A t ord k d ht, if_pos hd] at h
  cases h
  refine ⟨rfl, fun r0 n h0 hn => ?_⟩
  rw [get2_ofFn h0 hn]

/-- differentiating more often than the degree gives the zero polynomial (one coefficient) -/
theorem polyDiff_get_le (A : AOps R) (t r : Tensor R) (ord k d : Nat)
    (h : applyOp A (.polyDiff ord) [t] = some r) (ht : t.shape = [k, d]) (hd : d ≤ ord) :
    r.shape = [k, 1] ∧ (∀ n, r.data.getD n A.zero = A.zero) ∧
      ∀ r0 n, r.get2 r0 n A.zero = A.zero := by
  rw [applyOp_polyDiff A t ord k d ht, if_neg (Nat.not_lt.2 hd)] at h
  cases h
  have hall : ∀ n, (ofFn [k, 1] fun _ => A.zero).data.getD n A.zero = A.zero := fun n => by
    by_cases hn : n < shapeSize [k, 1]
    · exact ofFn_data_getD _ _ _ _ hn
    · -- out of range `Array.getD` (a `dite` on the bound) is the default, which is `A.zero` too
      exact dif_neg (by rwa [ofFn_size])
  exact ⟨rfl, hall, fun r0 n => by unfold get2; exact hall _⟩

theorem square_get (A : AOps R) (t r : Tensor R) (h : applyOp A .square [t] = some r) :
    r.shape = t.shape ∧ ∀ n < t.data.size,
      r.data.getD n A.zero = A.mul (t.data.getD n A.zero) (t.data.getD n A.zero) := by
  rw [applyOp_square] at h
  cases h
  exact ⟨rfl, fun n hn => map_getD hn⟩

theorem conj_get (A : AOps R) (t r : Tensor R) (h : applyOp A .conj [t] = some r) :
    r.shape = t.shape ∧ ∀ n < t.data.size,
      r.data.getD n A.zero = A.conj (t.data.getD n A.zero) := by
  rw [applyOp_conj] at h
  cases h
  exact ⟨rfl, fun n hn => map_getD hn⟩

theorem sum_get (A : AOps R) (a b r : Tensor R) (h : applyOp A .sum [a, b] = some r) :
    a.shape = b.shape ∧ r.shape = a.shape ∧ ∀ n, n < a.data.size → n < b.data.size →
      r.data.getD n A.zero = A.add (a.data.getD n A.zero) (b.data.getD n A.zero) :=
  zip_get A.add a b r A.zero ((applyOp_sum A a b).symm.trans h)

theorem hadamard_get (A : AOps R) (a b r : Tensor R) (h : applyOp A .hadamard [a, b] = some r) :
    a.shape = b.shape ∧ r.shape = a.shape ∧ ∀ n, n < a.data.size → n < b.data.size →
      r.data.getD n A.zero = A.mul (a.data.getD n A.zero) (b.data.getD n A.zero) :=
  zip_get A.mul a b r A.zero ((applyOp_hadamard A a b).symm.trans h)

/-- for well-formed arguments (`Tensor.ok`) every entry of the output is the sum of the entries -/
theorem sum_get_ok (A : AOps R) (a b r : Tensor R) (h : applyOp A .sum [a, b] = some r)
    (ha : a.ok = true) (hb : b.ok = true) :
    r.shape = a.shape ∧ ∀ n < shapeSize r.shape,
      r.data.getD n A.zero = A.add (a.data.getD n A.zero) (b.data.getD n A.zero) :=
  zip_get_ok A.add a b r A.zero ((applyOp_sum A a b).symm.trans h) ha hb

theorem hadamard_get_ok (A : AOps R) (a b r : Tensor R) (h : applyOp A .hadamard [a, b] = some r)
    (ha : a.ok = true) (hb : b.ok = true) :
    r.shape = a.shape ∧ ∀ n < shapeSize r.shape,
      r.data.getD n A.zero = A.mul (a.data.getD n A.zero) (b.data.getD n A.zero) :=
  zip_get_ok A.mul a b r A.zero ((applyOp_hadamard A a b).symm.trans h) ha hb

/-- One node: the result shape is the shape rule applied to the argument shapes. -/
theorem applyOp_shape (A : AOps R) (op : POp) (args : List (Tensor R)) (r : Tensor R)
    (h : applyOp A op args = some r) : op.shape (args.map (·.shape)) = some r.shape :=
  Cirkit.applyOp_shape A op args r h

/-- Whole graphs: if evaluation succeeds, the symbolic shape is defined and is the shape of the
    value (for every `pre`, in particular the default `id`). -/
theorem shape_sound (A : AOps R) (θ : Nat → Option (Array R)) (pre : R → R) (e : PExpr R)
    (t : Tensor R) (h : PExpr.eval A θ pre e = .ok t) : e.shape = some t.shape :=
  shape_sound_aux A θ pre e t h

theorem shape_sound_id (A : AOps R) (θ : Nat → Option (Array R)) (e : PExpr R)
    (t : Tensor R) (h : PExpr.eval A θ id e = .ok t) : e.shape = some t.shape :=
  shape_sound A θ id e t h

theorem eval_app (A : AOps R) (θ : Nat → Option (Array R)) (pre : R → R) (op : POp)
    (args : List (PExpr R)) :
    PExpr.eval A θ pre (.app op args)
      = (do let vs ← PExpr.eval.evalList A θ pre args
            match applyOp A op vs with
            | some t => .ok t
            | none => .error s!"unsupported {repr op}") := by
  rw [PExpr.eval]
  rfl

theorem evalList_nil (A : AOps R) (θ : Nat → Option (Array R)) (pre : R → R) :
    PExpr.eval.evalList A θ pre [] = .ok [] := by
  rw [PExpr.eval.evalList]

theorem evalList_cons (A : AOps R) (θ : Nat → Option (Array R)) (pre : R → R) (e : PExpr R)
    (es : List (PExpr R)) :
    PExpr.eval.evalList A θ pre (e :: es)
      = (do let v ← PExpr.eval A θ pre e
            let vs ← PExpr.eval.evalList A θ pre es
            .ok (v :: vs)) := by
  rw [PExpr.eval.evalList]

theorem softmax_rowsum {F : Type} [Field F] (len : ℕ) (e : ℕ → F)
    (h : ∑ a ∈ range len, e a ≠ 0) :
    ∑ a ∈ range len, e a / (∑ b ∈ range len, e b) = 1 := by
  rw [← Finset.sum_div, div_self h]

/-! ### non-vacuity: the operators do return values, with the entries the theorems describe -/

example :
    (applyOp ratA (.index [2, 0] 1) [⟨[2, 3], #[1, 2, 3, 4, 5, 6]⟩]).map
        (fun t => (t.shape, t.data.toList))
      = some ([2, 2], [3, 1, 6, 4]) := by decide +kernel

example :
    (applyOp ratA .kronecker [⟨[1, 2], #[1, 2]⟩, ⟨[2, 1], #[3, 4]⟩]).map
        (fun t => (t.shape, t.data.toList))
      = some ([2, 2], [3, 6, 4, 8]) := by decide +kernel

example :
    (applyOp ratA .mixing [⟨[2, 2], #[1, 2, 3, 4]⟩]).map (fun t => (t.shape, t.data.toList))
      = some ([2, 4], [1, 0, 2, 0, 0, 3, 0, 4]) := by decide +kernel

example :
    (applyOp ratA .polyProduct [⟨[1, 2], #[1, 1]⟩, ⟨[1, 2], #[1, 2]⟩]).map
        (fun t => (t.shape, t.data.toList))
      = some ([1, 3], [1, 3, 2]) := by decide +kernel

end Cirkit.C14
