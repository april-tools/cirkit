/-
  C12 — circuits in the normalised class have partition function one, and non-negative (positive)
  parameters give non-negative (positive) outputs.

  Theorems are about the model (`CirkitModel.Model.Node`).  The normalised class `Node.Norm S` and
  the parameter classes `Node.NonNeg` / `Node.StrictPos` are defined in `CirkitModel.Spec.Node`;
  `S v` is the functional under which the units over `v` integrate to one (a sum over a discrete
  domain or a quadrature rule, as in C03/C11).

  Partial (runtime, exercised by the correspondence check only): that the parameterisations the
  library actually builds land in `Node.Norm` up to float rounding; the integrals of the
  non-polynomial input layers (Gaussian …) being one is an assumption on `S` (`Norm` at leaves).
-/
import Mathlib.Analysis.SpecialFunctions.Exp
import CirkitModel.Proofs.Bridge
import CirkitModel.Proofs.Operators
import CirkitModel.Proofs.Norm

open Finset

namespace Cirkit.C12

section Norm
variable {R V : Type} [CommSemiring R]

/-- With every variable marginalised (`IntegrateQuery` with the full mask), every unit of a
    well-formed circuit in the normalised class evaluates to one.  Smoothness and decomposability
    are not needed for this form. -/
theorem normalised_partition (n : Node R V) (S : ℕ → (V → R) → R) (hwf : n.WF) (hn : n.Norm S)
    (x : ℕ → V) (i : ℕ) (hi : i < n.units) :
    n.maskedEval (Ops.ofCommSemiring R) S (fun _ => true) x i = 1 :=
  Node.normalised_partition n S hwf hn x i hi

/-- The denoted function of a smooth, decomposable, well-formed, normalised circuit sums to one
    over its whole scope `zs` (the masked evaluation above is the true marginal: C11
    `maskedEval_correct`). -/
theorem normalised_marginal (n : Node R V) (S : ℕ → (V → R) → R) (hS : ∀ v, LinFun (S v))
    (zs : List ℕ) (hnd : zs.Nodup) (hz : ∀ z ∈ zs, Node.Mem z n)
    (hall : ∀ v, Node.Mem v n → v ∈ zs) (hs : n.Smooth) (hd : n.Decomp) (hwf : n.WF)
    (hn : n.Norm S) (x : ℕ → V) (i : ℕ) (hi : i < n.units) :
    Node.sumOver S zs (fun y' => n.eval (Ops.ofCommSemiring R) y' i) x = 1 :=
  Node.normalised_marginal n S hS zs hnd hz hall hs hd hwf hn x i hi

end Norm

section Order
variable {R V : Type} [CommSemiring R] [PartialOrder R]

theorem eval_nonneg [IsOrderedRing R] (n : Node R V) (h : n.NonNeg) (x : ℕ → V) (i : ℕ) :
    0 ≤ n.eval (Ops.ofCommSemiring R) x i :=
  Node.eval_nonneg n h x i

/-- Hence over `ℝ` the logarithm of every output is finite. -/
theorem eval_pos [IsStrictOrderedRing R] (n : Node R V) (h : n.StrictPos) (x : ℕ → V) (i : ℕ) :
    0 < n.eval (Ops.ofCommSemiring R) x i :=
  Node.eval_pos n h x i

end Order

/-- The softmax reparameterisation of sum-layer weights: `e = exp ∘ θ` (any family with non-zero
    sum will do). -/
theorem softmax_rowsum {F : Type} [Field F] (len : ℕ) (e : ℕ → F)
    (h : ∑ a ∈ range len, e a ≠ 0) :
    ∑ a ∈ range len, e a / (∑ b ∈ range len, e b) = 1 :=
  Cirkit.softmax_rowsum len e h

theorem softmax_pos {F : Type} [Field F] [LinearOrder F] [IsStrictOrderedRing F] (len : ℕ)
    (e : ℕ → F) (h : ∀ a < len, 0 < e a) (a : ℕ) (ha : a < len) :
    0 < e a / (∑ b ∈ range len, e b) :=
  Cirkit.softmax_pos len e h a ha

/-- Row `k` of the `(K, K·H)` weight matrix of a mixing layer. -/
theorem mixing_rowsum {R : Type} [CommSemiring R] (K H : ℕ) (v : ℕ → ℕ → R) (k : ℕ)
    (hk : k < K) :
    ∑ c ∈ range (K * H), (if c % K = k then v k (c / K) else 0) = ∑ h ∈ range H, v k h :=
  Cirkit.mixing_rowsum K H v k hk

theorem sigmoid_range (x : ℝ) :
    0 < 1 / (1 + Real.exp (-x)) ∧ 1 / (1 + Real.exp (-x)) < 1 :=
  have he : 0 < Real.exp (-x) := Real.exp_pos _
  have hd : 0 < 1 + Real.exp (-x) := add_pos one_pos he
  ⟨one_div_pos.2 hd, (div_lt_one hd).2 (lt_add_of_pos_right 1 he)⟩

/-- Non-vacuity: a normalised, non-negative, well-formed mixture of two products of input units
    over variables 0 and 1 with values in `Bool` (`S v g = g false + g true`). -/
example :
    let S : ℕ → (Bool → ℚ) → ℚ := fun _ g => g false + g true
    let n : Node ℚ Bool := Node.sum 1 2 1 (fun _ _ => 1 / 2)
      (fun _ => Node.had 2 2 (fun h => Node.leaf h.val 2 (fun _ _ => 1 / 2)))
    n.WF ∧ n.Norm S ∧ n.NonNeg :=
  have half : (0 : ℚ) ≤ 1 / 2 := by decide +kernel
  ⟨fun _ => ⟨fun _ => ⟨trivial, rfl⟩, rfl⟩,
    ⟨fun _ _ => (by decide +kernel : ∑ _h : Fin 1, ∑ _j ∈ range 2, (1 / 2 : ℚ) = 1),
      fun _ _ _ _ => (by decide +kernel : (1 / 2 : ℚ) + 1 / 2 = 1)⟩,
    ⟨fun _ _ => half, fun _ _ _ _ => half⟩⟩

end Cirkit.C12
