/-
  C16 — region graphs: validity, structured decomposability, save / load, and the structural
  lemmas behind the circuits built from them.

  Theorems are about the model `CirkitModel.Model.RegionGraph` (`RG`: region scopes, partitions as
  (output region, input regions), roots; mirrors `cirkit/templates/region_graph/graph.py`) and, for
  the two layer facts, `CirkitModel.Model.Node`.

  * `dump_load_id`
      — saving and loading a region graph gives back the same regions, partitions and roots, in the
        same order.
  * `isSD_iff`, `decomposition_perm`
      — `isSD` says exactly: partitions of regions with equal scope induce the same decomposition;
        the decomposition does not depend on the order in which a partition lists its parts
        (comparing the parts as tuples would violate this: finding D13).
  * `valid_partition`
      — unpacking of `valid`: the parts of every partition are non-empty, their union is the
        region and their sizes add up to the size of the region.
    `valid_partition_disjoint` (full, any number of parts)
      — hence the parts of every partition of a valid graph are pairwise disjoint.  No hypothesis
        on the scopes is needed: `Scope.unionAll` always produces a strictly increasing list, so a
        union that is as long as the sum of the sizes cannot have dropped a repeated variable.
    `valid_partition_disjoint_partial`
      — the two-part instance.
  * `roots_cover_scope`
      — every root of a graph accepted by `rootsCover` has the scope of the whole graph.
  * `product_of_disjoint_is_decomposable`, `sum_of_same_scope_is_smooth`
      — the two structural facts behind the builder: a product layer over inputs with pairwise
        disjoint scopes is decomposable, a sum layer over inputs with equal scopes is smooth.
    NOT proved: the general theorem `build_circuit_sound` ("for every valid region graph and every
    choice of layer factories, `build_circuit` returns a smooth and decomposable circuit, which is
    structured decomposable when the graph is").  The builder itself is not modelled; it is
    validated per run: the correspondence check builds the circuit with the real library and
    recomputes the flags (`SCirc.isSmooth`, `isDecomposable`, `isStructuredDecomposable` of C08)
    with the Lean model on the real circuit.
  Proofs: `CirkitModel.Proofs.Scope`.
-/
import Mathlib.Data.List.GetD
import CirkitModel.Model.Node
import CirkitModel.Model.RegionGraph
import CirkitModel.Proofs.Scope
import CirkitModel.Proofs.Basics

namespace Cirkit.C16

theorem dump_load_id (g : RG) : RG.load (RG.dump g) = g := by
  cases g with
  | mk regions partitions roots =>
    simp only [RG.load, RG.dump, RG.regionScope, List.map_map]
    congr 1
    exact map_getD_range regions []

theorem isSD_iff (g : RG) :
    g.isSD = true ↔ ∀ p ∈ g.partitions, ∀ q ∈ g.partitions,
      g.regionScope p.1 = g.regionScope q.1 → g.decomposition p = g.decomposition q := by
  simp only [RG.isSD, List.all_eq_true, Bool.or_eq_true, bne_iff_ne, beq_iff_eq, ne_eq,
    imp_iff_not_or]

theorem decomposition_perm (g : RG) (o : ℕ) (ins ins' : List ℕ) (h : ins.Perm ins') :
    g.decomposition (o, ins) = g.decomposition (o, ins') :=
  Scope.sortScopes_eq_of_perm (h.map g.regionScope)

theorem valid_partition (g : RG) (h : g.valid = true) (p : ℕ × List ℕ) (hp : p ∈ g.partitions) :
    p.2 ≠ [] ∧ (∀ i ∈ p.2, g.regionScope i ≠ []) ∧
      Scope.unionAll (p.2.map g.regionScope) = g.regionScope p.1 ∧
      g.partSize p.2 = (g.regionScope p.1).length := by
  simp only [RG.valid, Bool.and_eq_true, List.all_eq_true, beq_iff_eq, decide_eq_true_eq,
    Bool.not_eq_true', List.isEmpty_eq_false_iff] at h
  -- the checks of partition `p`: output region and input regions exist, there are inputs, their
  -- union is the region, the sizes add up
  obtain ⟨⟨⟨⟨_, hins⟩, hne⟩, hu⟩, hs⟩ := h.2 p hp
  have hreg : ∀ s ∈ g.regions, s ≠ [] := h.1.1.1
  refine ⟨hne, fun i hi => ?_, hu, hs⟩
  rw [RG.regionScope, List.getD_eq_getElem _ _ (hins i hi)]
  exact hreg _ (List.getElem_mem _)

theorem parts_disjoint (g : RG) (o : ℕ) (ins : List ℕ)
    (hu : Scope.unionAll (ins.map g.regionScope) = g.regionScope o)
    (hs : g.partSize ins = (g.regionScope o).length) :
    (ins.map g.regionScope).Pairwise (fun a b => Scope.disjoint a b = true) :=
  Scope.pairwise_disjoint_of_length_unionAll _ (by rw [hu, ← hs, RG.partSize, List.map_map]; rfl)

theorem valid_partition_disjoint (g : RG) (h : g.valid = true) (p : ℕ × List ℕ)
    (hp : p ∈ g.partitions) :
    (p.2.map g.regionScope).Pairwise (fun a b => Scope.disjoint a b = true) :=
  have ⟨_, _, hu, hs⟩ := valid_partition g h p hp
  parts_disjoint g p.1 p.2 hu hs

set_option linter.unusedVariables false in
/-- The two-part instance of `parts_disjoint`.  `ha`, `hb` are not needed. -/
theorem valid_partition_disjoint_partial (g : RG) (o a b : ℕ)
    (ha : (g.regionScope a).Nodup) (hb : (g.regionScope b).Nodup)
    (hu : Scope.unionAll ([a, b].map g.regionScope) = g.regionScope o)
    (hs : g.partSize [a, b] = (g.regionScope o).length) :
    Scope.disjoint (g.regionScope a) (g.regionScope b) = true :=
  List.rel_of_pairwise_cons (parts_disjoint g o [a, b] hu hs) (List.mem_singleton_self _)

theorem roots_cover_scope (g : RG) (h : g.rootsCover = true) (r : ℕ) (hr : r ∈ g.roots) :
    g.regionScope r = g.scope :=
  beq_iff_eq.1 (List.all_eq_true.1 h r hr)

section Layers
variable {R V : Type}

theorem product_of_disjoint_is_decomposable (ar k : ℕ) (ch : Fin ar → Node R V)
    (hd : ∀ h, (ch h).Decomp)
    (hdisj : ∀ h h' v, h ≠ h' → Node.Mem v (ch h) → ¬ Node.Mem v (ch h')) :
    (Node.had ar k ch).Decomp ∧ (Node.kron ar k ch).Decomp :=
  ⟨⟨hd, hdisj⟩, ⟨hd, hdisj⟩⟩

theorem sum_of_same_scope_is_smooth (ar kin kout : ℕ) (W : ℕ → ℕ → R) (ch : Fin ar → Node R V)
    (hs : ∀ h, (ch h).Smooth) (hsame : ∀ h h' v, Node.Mem v (ch h) ↔ Node.Mem v (ch h')) :
    (Node.sum ar kin kout W ch).Smooth :=
  ⟨hs, hsame⟩

end Layers

/-- variables {0,1,2}; the root region 0 is split as {0,1} | {2} and as {2} | {0,1}; region 1 =
    {0,1} is split as {0} | {1} -/
def exampleRG : RG :=
  { regions := [[0, 1, 2], [0, 1], [2], [0], [1]],
    partitions := [(0, [1, 2]), (0, [2, 1]), (1, [3, 4])],
    roots := [0] }

example : exampleRG.valid = true := by decide +kernel
example : exampleRG.rootsCover = true := by decide +kernel
example : exampleRG.isSD = true := by decide +kernel
example : exampleRG.isOmni = false := by decide +kernel
example : exampleRG.scope = [0, 1, 2] := by decide +kernel

/-- a graph that splits {0,1,2} in two different ways is valid but not structured decomposable -/
example :
    let g : RG := { regions := [[0, 1, 2], [0, 1], [2], [0], [1, 2]],
                    partitions := [(0, [1, 2]), (0, [3, 4])], roots := [0] }
    g.valid = true ∧ g.isSD = false := by decide +kernel

/-- overlapping parts are rejected by `valid` (sizes do not add up) -/
example :
    let g : RG :=
      { regions := [[0, 1, 2], [0, 1], [1, 2]], partitions := [(0, [1, 2])], roots := [0] }
    g.valid = false := by decide +kernel

end Cirkit.C16
