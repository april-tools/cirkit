/-
  C11 — masked evaluation (`IntegrateQuery`) equals evaluating the integrated circuit.

  Theorems are about the model (`CirkitModel.Model.Node`): `Node.maskedEval` evaluates with the
  input layers of the masked variables replaced by their integrals, the mask being an argument of
  evaluation (`cirkit/backend/torch/queries.py`).  It agrees with evaluating the circuit returned
  by `integrate` over the masked variables (`maskedEval_eq_integ`, no structural hypotheses), hence
  for smooth and decomposable circuits it is the iterated integral of the denoted function
  (`maskedEval_correct`); the empty mask is plain evaluation (`maskedEval_empty`); only the mask
  restricted to the scope matters (`maskedEval_mask_congr`).
  Proofs: `CirkitModel.Proofs.Operators`.
-/
import CirkitModel.Proofs.Bridge
import CirkitModel.Proofs.Operators

namespace Cirkit.C11
variable {R V : Type} [CommSemiring R]

theorem maskedEval_eq_integ (n : Node R V) (S : ℕ → (V → R) → R) (zs : List ℕ) (x : ℕ → V)
    (i : ℕ) :
    n.maskedEval (Ops.ofCommSemiring R) S (fun v => decide (v ∈ zs)) x i
      = (n.integ S zs).eval (Ops.ofCommSemiring R) x i :=
  Node.maskedEval_eq_integ n S zs x i

theorem maskedEval_empty (n : Node R V) (S : ℕ → (V → R) → R) (x : ℕ → V) (i : ℕ) :
    n.maskedEval (Ops.ofCommSemiring R) S (fun _ => false) x i
      = n.eval (Ops.ofCommSemiring R) x i :=
  Node.maskedEval_empty n S x i

theorem maskedEval_correct (n : Node R V) (S : ℕ → (V → R) → R) (hS : ∀ v, LinFun (S v))
    (zs : List ℕ) (hnd : zs.Nodup) (hz : ∀ z ∈ zs, Node.Mem z n) (hs : n.Smooth) (hd : n.Decomp)
    (x : ℕ → V) (i : ℕ) :
    n.maskedEval (Ops.ofCommSemiring R) S (fun v => decide (v ∈ zs)) x i
      = Node.sumOver S zs (fun y' => n.eval (Ops.ofCommSemiring R) y' i) x := by
  rw [Node.maskedEval_eq_integ, Node.integ_correct n S hS zs hnd hz hs hd x i]

theorem maskedEval_mask_congr (n : Node R V) (S : ℕ → (V → R) → R) (m1 m2 : ℕ → Bool)
    (h : ∀ v, Node.Mem v n → m1 v = m2 v) (x : ℕ → V) (i : ℕ) :
    n.maskedEval (Ops.ofCommSemiring R) S m1 x i = n.maskedEval (Ops.ofCommSemiring R) S m2 x i :=
  Node.maskedEval_mask_congr n S m1 m2 h x i

end Cirkit.C11
