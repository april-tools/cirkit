/-
  C17 — initialisation follows the symbolic initialiser regardless of folding.

  Theorems are about the model `CirkitModel.Model.Params`
  (`cirkit/backend/torch/initializers.py`: `foldwise_initializer_`, `dirichlet_`;
  `cirkit/backend/torch/rules/initializers.py`: `compile_dirichlet_initializer`).

  * `foldwise_slice`, `foldwise_length`, `foldwise_independent`
      — slice `i` of a folded parameter is initialised by initialiser `i` applied to slice `i`,
        and by nothing else: it depends on `inits[i]` and `slices[i]` only.
  * `dirichlet_axis`
      — the compiled initialiser, applied to a slice that carries its fold dimension (rank `r+1`),
        normalises along the declared axis (shifted by the fold dimension), for positive and
        negative axis arguments.
  * `dirichlet_axis_without_fold_dim_wrong`
      — refutation witness for defect D7 (DESIGN.md section 6): passing the slice *without* its
        fold dimension (rank `r`) is wrong — `axis = 0`, `r = 2` gives `1 ≠ 0`.
  * `dirichlet_shape`
      — `movedim(samples, -1, dim)` puts the categories back on the requested axis, for every shape
        and every dim.
  * `dirichlet_transpose_wrong`
      — refutation witness for defect D14 (DESIGN.md section 6): `transpose(samples, dim, -1)`
        in place of `movedim` does not restore the shape.
-/
import Mathlib.Data.List.InsertIdx
import CirkitModel.Proofs.Params

namespace Cirkit.C17

theorem foldwise_slice {T : Type} (inits : List (T → T)) (slices : List T) (i : ℕ)
    (hi : i < inits.length) (hs : i < slices.length) :
    (foldwiseInit inits slices)[i]? = some ((inits[i]) (slices[i])) :=
  List.getElem?_zipWith_eq_some.2
    ⟨_, _, List.getElem?_eq_getElem hi, List.getElem?_eq_getElem hs, rfl⟩

theorem foldwise_length {T : Type} (inits : List (T → T)) (slices : List T) :
    (foldwiseInit inits slices).length = min inits.length slices.length :=
  List.length_zipWith

theorem foldwise_independent {T : Type} (inits inits' : List (T → T)) (slices slices' : List T)
    (i : ℕ) (hi : i < inits.length) (hi' : i < inits'.length)
    (hs : i < slices.length) (hs' : i < slices'.length)
    (hinit : inits[i] = inits'[i]) (hslice : slices[i] = slices'[i]) :
    (foldwiseInit inits slices)[i]? = (foldwiseInit inits' slices')[i]? := by
  rw [foldwise_slice inits slices i hi hs, foldwise_slice inits' slices' i hi' hs', hinit, hslice]

/-- (`h` is not needed: `compiledDirichletDim_eq` holds for every `axis`.) -/
theorem dirichlet_axis (axis : ℤ) (r : ℕ) (h : -(r : ℤ) ≤ axis ∧ axis < r) :
    compiledDirichletDim axis r = declaredAxis axis r + 1 :=
  have _ := h
  compiledDirichletDim_eq axis r

theorem dirichlet_axis_without_fold_dim_wrong :
    ∃ (axis : ℤ) (r : ℕ), (-(r : ℤ) ≤ axis ∧ axis < r) ∧
      (let d := if axis < 0 then axis else axis + 1
       (if d ≥ 0 then d else d + r)) ≠ declaredAxis axis r :=
  ⟨0, 2, by decide +kernel⟩

theorem dirichlet_shape (shape : List ℕ) (dim : ℕ) (h : dim < shape.length) :
    moveLastTo (dirichletSampleShape shape dim) dim = shape := by
  rw [dirichletSampleShape, moveLastTo, List.getLast?_concat, List.dropLast_concat,
    List.getD_eq_getElem?_getD, List.getElem?_eq_getElem h]
  exact List.insertIdx_eraseIdx_getElem h

theorem dirichlet_transpose_wrong :
    swapWithLast (dirichletSampleShape [1, 2, 3, 4] 1) 1 ≠ [1, 2, 3, 4] := by
  decide +kernel

end Cirkit.C17
