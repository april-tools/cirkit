/-
  C05 — `differentiate` returns the partial derivatives of the denoted function, one per variable
  of the scope, in increasing variable id order, followed by the circuit itself.

  Theorems are about the model (`CirkitModel.Model.Diff`): `Node.diff1 v D` replaces every input
  layer by its derivative (`D` = what `differentiate_polynomial_layer` does to a unit function),
  copies sum layers over the differentiated inputs, and in a product layer differentiates only the
  one input whose scope contains `v` (`cirkit.symbolic.functional.differentiate`);
  `Node.diffOutputs` lists the derivatives in the order of the canonical scope `Node.scopeL`, then
  the layer itself; `polyDiffCoeff` is the falling factorial of `PolynomialDifferential`.

  Semantic domain: a polynomial-input circuit is a `Node (MvPolynomial ℕ S) Unit` over a commutative
  semiring `S` satisfying `Node.PolyCircuit` (defined in `CirkitModel.Spec.Poly`): the units of an
  input layer over `v'` are polynomials `p` with `p.vars ⊆ {v'}`, constant layers and sum weights
  `w` are constants, stated as `w.vars = ∅` (not as `∃ r, w = C r`).  Its units denote elements of
  `MvPolynomial ℕ S` and "derivative" is `MvPolynomial.pderiv`.
-/
import CirkitModel.Proofs.Bridge
import CirkitModel.Proofs.Operators
import CirkitModel.Proofs.Diff
import CirkitModel.Proofs.Scope
import CirkitModel.Proofs.Transport

namespace Cirkit.C05

section Structural
variable {R V : Type}

theorem hasVar_iff (n : Node R V) (v : ℕ) : n.hasVar v = true ↔ Node.Mem v n :=
  Node.hasVar_iff n v

theorem diffOutputs_length (D : ℕ → (V → R) → (V → R)) (n : Node R V) :
    (n.diffOutputs D).length = n.scopeL.length + 1 := by
  simp only [Node.diffOutputs, List.length_append, List.length_map, List.length_singleton]

set_option linter.unusedVariables false in
/-- `D` does not occur: the order of the derivative blocks is that of `scopeL`; `diffOutputs_get`
    says which block is where. -/
theorem diffOutputs_order (D : ℕ → (V → R) → (V → R)) (n : Node R V) :
    n.scopeL.Pairwise (· < ·) :=
  Scope.ofList_pairwise _

theorem scopeL_mem (n : Node R V) (v : ℕ) : v ∈ n.scopeL ↔ Node.Mem v n :=
  (Scope.mem_ofList _ _).trans (Node.mem_vars n v)

theorem diffOutputs_get (D : ℕ → (V → R) → (V → R)) (n : Node R V) (j : ℕ)
    (hj : j < n.scopeL.length) :
    (n.diffOutputs D)[j]? = some (n.diff1 (n.scopeL[j]) (D (n.scopeL[j]))) := by
  unfold Node.diffOutputs
  rw [List.getElem?_append_left (by rw [List.length_map]; exact hj), List.getElem?_map,
    List.getElem?_eq_getElem hj]
  rfl

theorem diffOutputs_last (D : ℕ → (V → R) → (V → R)) (n : Node R V) :
    (n.diffOutputs D)[n.scopeL.length]? = some n := by
  unfold Node.diffOutputs
  rw [List.getElem?_append_right (by rw [List.length_map]), List.length_map, Nat.sub_self]
  rfl

end Structural

section Poly
variable {S : Type} [CommSemiring S]

theorem eval_vars_subset (n : Node (MvPolynomial ℕ S) Unit) (hp : n.PolyCircuit)
    (x : ℕ → Unit) (i : ℕ) (v : ℕ) :
    v ∈ (n.eval (Ops.ofCommSemiring (MvPolynomial ℕ S)) x i).vars → Node.Mem v n :=
  Node.eval_vars_subset n hp x i v

/-- Differentiating a smooth and decomposable polynomial circuit in a variable of its scope
    denotes the (k-th) partial derivative of the denoted polynomial. -/
theorem diff1_correct (n : Node (MvPolynomial ℕ S) Unit) (v k : ℕ) (hp : n.PolyCircuit)
    (hmem : Node.Mem v n) (hs : n.Smooth) (hd : n.Decomp) (x : ℕ → Unit) (i : ℕ) :
    (n.diff1 v (fun g a => (MvPolynomial.pderiv v)^[k] (g a))).eval
        (Ops.ofCommSemiring (MvPolynomial ℕ S)) x i
      = (MvPolynomial.pderiv v)^[k] (n.eval (Ops.ofCommSemiring (MvPolynomial ℕ S)) x i) :=
  Node.diff1_correct n v k hp hmem hs hd x i

/-- Output `j` of `differentiate` exists and denotes the k-th partial derivative of the operand
    in the `j`-th variable (in increasing id order) of its scope. -/
theorem differentiate_correct (n : Node (MvPolynomial ℕ S) Unit) (hp : n.PolyCircuit)
    (hs : n.Smooth) (hd : n.Decomp) (k : ℕ) (x : ℕ → Unit) (i : ℕ) (j : ℕ)
    (hj : j < n.scopeL.length) :
    ∃ q, (n.diffOutputs (fun v g a => (MvPolynomial.pderiv v)^[k] (g a)))[j]? = some q ∧
      q.eval (Ops.ofCommSemiring (MvPolynomial ℕ S)) x i
        = (MvPolynomial.pderiv (n.scopeL[j]))^[k]
            (n.eval (Ops.ofCommSemiring (MvPolynomial ℕ S)) x i) :=
  ⟨_, diffOutputs_get _ n j hj,
    Node.diff1_correct n (n.scopeL[j]) k hp ((scopeL_mem n _).mp (List.getElem_mem hj)) hs hd x i⟩

end Poly

/-- `PolynomialDifferential`: the coefficients of the k-th derivative of `Σ_{m<d} a_m x^m` (all `0`
    when `d ≤ k`). -/
theorem polyDiff_rule {S : Type} [CommSemiring S] (a : ℕ → S) (d k n : ℕ) :
    ((Polynomial.derivative)^[k]
        (∑ m ∈ Finset.range d, Polynomial.C (a m) * Polynomial.X ^ m)).coeff n
      = if n + k < d then (polyDiffCoeff k n : S) * a (n + k) else 0 :=
  Cirkit.polyDiff_rule a d k n

/-- With `φ = MvPolynomial.eval pt` this transfers `diff1_correct` to numeric evaluation at any
    point. -/
theorem eval_ringHom {R R' V : Type} [CommSemiring R] [CommSemiring R'] (φ : R →+* R')
    (n : Node R V) (x : ℕ → V) (i : ℕ) :
    φ (n.eval (Ops.ofCommSemiring R) x i) = (n.mapVals φ).eval (Ops.ofCommSemiring R') x i :=
  Node.eval_ringHom φ n x i

/-- Non-vacuity: `exampleNode` (`X₁² ⊙ 3·X₈`, a `had 2 1` over input layers on variables 1 and 8)
    satisfies all hypotheses of `diff1_correct` for `v = 8`. -/
theorem example_nonvacuous :
    exampleNode.PolyCircuit ∧ exampleNode.Smooth ∧ exampleNode.Decomp ∧ Node.Mem 8 exampleNode := by
  -- input 0 is the layer over variable 1 (`X₁²`), input 1 the layer over variable 8 (`3·X₈`)
  refine ⟨
    Fin.forall_fin_two.2 ⟨?poly1, ?poly8⟩,
    Fin.forall_fin_two.2 ⟨trivial, trivial⟩,
    ⟨Fin.forall_fin_two.2 ⟨trivial, trivial⟩, ?disjoint⟩,
    ⟨1, rfl⟩⟩
  case poly1 => exact fun _ _ => (MvPolynomial.vars_pow _ _).trans MvPolynomial.vars_X.subset
  case poly8 =>
    refine fun _ _ => (MvPolynomial.vars_mul _ _).trans ?_
    rw [← map_ofNat (MvPolynomial.C : ℚ →+* MvPolynomial ℕ ℚ) 3, MvPolynomial.vars_C,
      Finset.empty_union, MvPolynomial.vars_X]
  case disjoint =>
    -- over the four pairs `(h, h')`: the diagonal contradicts `h ≠ h'`; off the diagonal `v`
    -- would be both 1 and 8
    exact Fin.forall_fin_two.2
      ⟨Fin.forall_fin_two.2 ⟨fun _ h => absurd rfl h, fun _ _ h1 h8 => nomatch h1.symm.trans h8⟩,
       Fin.forall_fin_two.2
        ⟨fun _ _ h8 h1 => (nomatch h8.symm.trans h1), fun _ h => absurd rfl h⟩⟩

theorem example_scope : exampleNode.scopeL = [1, 8] := by
  decide

open MvPolynomial in
/-- Non-vacuity of the conclusion: the first derivative of `exampleNode` in variable 8 denotes
    `∂/∂X₈ (X₁² · 3·X₈) = 3·X₁²`. -/
theorem example_derivative (x : ℕ → Unit) :
    (exampleNode.diff1 8 (fun g a => (pderiv 8)^[1] (g a))).eval
      (Ops.ofCommSemiring (MvPolynomial ℕ ℚ)) x 0 = 3 * X 1 ^ 2 := by
  -- `diff1 8` keeps the input layer over variable 1 and differentiates the one over variable 8
  rw [exampleNode, Node.diff1, Node.eval_had, Fin.prod_univ_two]
  show X 1 ^ 2 * pderiv 8 (3 * X 8) = _
  rw [← map_ofNat (C : ℚ →+* MvPolynomial ℕ ℚ) 3, pderiv_C_mul, pderiv_X_self, mul_one, mul_comm]

end Cirkit.C05
