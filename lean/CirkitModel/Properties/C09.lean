/-
  C09 — operator contracts: which arguments the operators of `cirkit.symbolic.functional` accept
  or refuse (and with which error class), and what structure their results keep.

  Decision logic (model: `SCirc.integratePre`, `differentiatePre`, `evidencePre`, `multiplyPre`,
  `queryPre` in `CirkitModel.Model.Sym`, mirroring the order of the checks in the code):
  `integrate` / `differentiate` refuse circuits that are not smooth and decomposable with a
  `StructuralPropertyError`, and reject bad scopes / orders with a `ValueError`; `evidence` only
  checks its scope; `multiply` needs equal scopes (`NotImplementedError` otherwise) and
  compatibility (`StructuralPropertyError` otherwise); queries need smooth and decomposable
  circuits (`ValueError`).
  Structure preservation (model: `Node`): the results of `integrate`, `evidence` and `conjugate`
  are again well-formed, smooth and decomposable, with the same number of units.
-/
import CirkitModel.Model.Sym
import CirkitModel.Proofs.Basics
import CirkitModel.Proofs.Operators
import CirkitModel.Properties.C07
import CirkitModel.Properties.C08

namespace Cirkit.C09

section Decision
variable {R : Type}

theorem evidencePre_eq (c : SCirc R) (obsVars : Scope) :
    c.evidencePre obsVars =
      if obsVars = [] ∨ Scope.subset obsVars c.scope = false then some .value else none := by
  simp only [SCirc.evidencePre, List.isEmpty_iff, Bool.not_eq_true', ite_or]

theorem multiplyPre_eq (c1 c2 : SCirc R) :
    c1.multiplyPre c2 =
      if c1.scope ≠ c2.scope then some .notImplemented
      else if c1.areCompatible c2 = false then some .structural else none := by
  simp only [SCirc.multiplyPre, bne_iff_ne, Bool.not_eq_true']

theorem evidence_never_structural (c : SCirc R) (obsVars : Scope) :
    c.evidencePre obsVars ≠ some .structural := by
  rw [evidencePre_eq]; split <;> exact fun h => nomatch h

theorem evidence_rejects_bad_scope (c : SCirc R) (obsVars : Scope) :
    (obsVars = [] ∨ Scope.subset obsVars c.scope = false) →
      c.evidencePre obsVars = some .value :=
  fun h => by rw [evidencePre_eq, if_pos h]

theorem evidence_accepts_iff (c : SCirc R) (obsVars : Scope) :
    c.evidencePre obsVars = none ↔ (obsVars ≠ [] ∧ Scope.subset obsVars c.scope = true) := by
  simp only [evidencePre_eq, ite_some_eq_none, not_or, and_true, Bool.not_eq_false, ne_eq]

theorem integrate_refuses (c : SCirc R) (zs : Scope) :
    (¬ (c.isSmooth = true ∧ c.isDecomposable = true)) → c.integratePre zs = some .structural :=
  fun h => if_pos (bnot_and_iff.2 h)

theorem integrate_rejects_bad_scope (c : SCirc R) (zs : Scope)
    (hok : c.isSmooth = true ∧ c.isDecomposable = true) :
    (zs = [] ∨ Scope.subset zs c.scope = false) → c.integratePre zs = some .value :=
  fun h => (if_neg (mt bnot_and_iff.1 (not_not_intro hok))).trans
    (evidence_rejects_bad_scope c zs h)

theorem integrate_accepts_iff (c : SCirc R) (zs : Scope) :
    c.integratePre zs = none ↔
      (c.isSmooth = true ∧ c.isDecomposable = true ∧ zs ≠ [] ∧ Scope.subset zs c.scope = true) := by
  -- the tail of `integratePre` after its first check is `evidencePre`, definitionally
  rw [show c.integratePre zs = if _ then _ else c.evidencePre zs from rfl, ite_some_eq_none,
    bnot_and_iff, evidence_accepts_iff, not_not, and_assoc]

theorem differentiate_refuses (c : SCirc R) (order : Int) :
    (¬ (c.isSmooth = true ∧ c.isDecomposable = true)) →
      c.differentiatePre order = some .structural :=
  fun h => if_pos (bnot_and_iff.2 h)

theorem differentiate_rejects_bad_order (c : SCirc R) (order : Int)
    (hok : c.isSmooth = true ∧ c.isDecomposable = true) :
    order ≤ 0 → c.differentiatePre order = some .value :=
  fun h => (if_neg (mt bnot_and_iff.1 (not_not_intro hok))).trans (if_pos h)

theorem differentiate_accepts_iff (c : SCirc R) (order : Int) :
    c.differentiatePre order = none ↔
      (c.isSmooth = true ∧ c.isDecomposable = true ∧ 0 < order) := by
  simp only [SCirc.differentiatePre, ite_some_eq_none, bnot_and_iff, not_not, and_true, not_le,
    and_assoc]

theorem multiply_accepts_iff (c1 c2 : SCirc R) :
    c1.multiplyPre c2 = none ↔ (c1.scope = c2.scope ∧ c1.areCompatible c2 = true) := by
  simp only [multiplyPre_eq, ite_some_eq_none, ne_eq, not_not, and_true, Bool.not_eq_false]

theorem multiply_refuses_incompatible (c1 c2 : SCirc R) (hs : c1.scope = c2.scope)
    (h : c1.areCompatible c2 = false) : c1.multiplyPre c2 = some .structural := by
  rw [multiplyPre_eq, if_neg (not_not_intro hs), if_pos h]

theorem multiply_refuses_scope_mismatch (c1 c2 : SCirc R) (hs : c1.scope ≠ c2.scope) :
    c1.multiplyPre c2 = some .notImplemented := by
  rw [multiplyPre_eq, if_pos hs]

theorem query_refuses (c : SCirc R) :
    (¬ (c.isSmooth = true ∧ c.isDecomposable = true)) → c.queryPre = some .value :=
  fun h => if_pos (bnot_and_iff.2 h)

theorem query_accepts_iff (c : SCirc R) :
    c.queryPre = none ↔ (c.isSmooth = true ∧ c.isDecomposable = true) := by
  rw [SCirc.queryPre, ite_some_eq_none, bnot_and_iff, not_not, and_iff_left rfl]

/-- non-vacuity: a sum layer over two leaves with different variables is not smooth; with
    `C08.exampleCirc` every outcome of the checks occurs -/
def nonSmoothCirc : SCirc Rat :=
  { layers := #[
      ⟨.embedding 0 2 2 (.const [2, 2] #[1, 2, 3, 4]), []⟩,
      ⟨.embedding 1 2 2 (.const [2, 2] #[1, 2, 3, 4]), []⟩,
      ⟨.sum 2 1 2 (.const [1, 4] #[1, 2, 3, 4]), [0, 1]⟩],
    outputs := [2] }

example : C08.exampleCirc.integratePre [0] = none := by decide +kernel
example : C08.exampleCirc.integratePre [] = some .value := by decide +kernel
example : C08.exampleCirc.integratePre [0, 5] = some .value := by decide +kernel
example : nonSmoothCirc.integratePre [0] = some .structural := by decide +kernel
example : C08.exampleCirc.differentiatePre 1 = none := by decide +kernel
example : C08.exampleCirc.differentiatePre 0 = some .value := by decide +kernel
example : nonSmoothCirc.differentiatePre 1 = some .structural := by decide +kernel
example : nonSmoothCirc.evidencePre [1] = none := by decide +kernel
example : nonSmoothCirc.evidencePre [2] = some .value := by decide +kernel
example : C08.exampleCirc.multiplyPre C08.exampleCirc = none := by decide +kernel
example : C08.exampleCirc.multiplyPre nonSmoothCirc = some .structural := by decide +kernel
example : nonSmoothCirc.queryPre = some .value := by decide +kernel

end Decision

section Preservation
variable {R V : Type}

theorem integrate_preserves (n : Node R V) (S : ℕ → (V → R) → R) (zs : List ℕ) (hwf : n.WF)
    (hs : n.Smooth) (hd : n.Decomp) :
    (n.integ S zs).WF ∧ (n.integ S zs).Smooth ∧ (n.integ S zs).Decomp
      ∧ (n.integ S zs).units = n.units
      ∧ ∀ z, Node.Mem z (n.integ S zs) ↔ (Node.Mem z n ∧ z ∉ zs) :=
  have e := Node.integ_eq_close n S zs
  ⟨e ▸ Node.close_wf _ n hwf, e ▸ Node.close_smooth _ n hs, e ▸ Node.close_decomp _ n hd,
    e ▸ Node.close_units _ n, Node.mem_integ n S zs⟩

theorem evidence_preserves (n : Node R V) (obs : ℕ → Option V) (hwf : n.WF) (hs : n.Smooth)
    (hd : n.Decomp) :
    (n.evid obs).WF ∧ (n.evid obs).Smooth ∧ (n.evid obs).Decomp ∧ (n.evid obs).units = n.units :=
  have e := Node.evid_eq_close n obs
  ⟨e ▸ Node.close_wf _ n hwf, e ▸ Node.close_smooth _ n hs, e ▸ Node.close_decomp _ n hd,
    e ▸ Node.close_units _ n⟩

theorem evidence_scope (n : Node R V) (obs : ℕ → Option V) (z : ℕ) :
    Node.Mem z (n.evid obs) ↔ (Node.Mem z n ∧ obs z = none) :=
  Node.mem_evid n obs z

theorem conjugate_preserves (n : Node R V) (σ : R → R) :
    ((n.conj σ).WF ↔ n.WF) ∧ ((n.conj σ).Smooth ↔ n.Smooth) ∧ ((n.conj σ).Decomp ↔ n.Decomp)
      ∧ (n.conj σ).units = n.units :=
  C07.conjugate_preserves_structure n σ

end Preservation

end Cirkit.C09
