/-
  C15 — sampling: every assignment the top-down sampler can return has positive probability, and
  the function the circuit denotes is the law the sampler is defined by.

  Theorems are about the model (`CirkitModel.Model.Node`, `CirkitModel.Model.Sample`).  The
  sampler of `cirkit/backend/torch/queries.py` (`SamplingQuery`) is defined by a top-down walk: at
  unit `i` of a sum layer it draws a column `c` with probability `W i c` (so `W i c > 0`) and
  continues in input `c / kin` at unit `c % kin`; at a product layer it continues in every input
  (Hadamard: the same unit; Kronecker: the digit units); at unit `i` of an input layer it draws a
  value `a` of its variable with `f i a > 0`.  `Node.Reach n i x`: this walk, started at unit `i`
  of `n`, can return the assignment `x`; `Node.follow`: the walk under given draws (`Draw`).  What
  the implementation computes is not the walk but a batched bottom-up propagation
  (`Node.propagate`, described in `CirkitModel.Model.Sample`); `propagate_eq_follow` ties the two.

  NOT mechanised: anything about the pseudo-random draws themselves (that the frequency of a draw
  is the product of the weights / densities; `DrawPos` only asserts them to be positive, and the
  law of the walk is given by `sample_law_*`), and that the folded / optimised tensor code computes
  `Node.propagate` (checked by the correspondence check through the driver command
  `sample_propagate`).
-/
import CirkitModel.Proofs.Bridge
import CirkitModel.Proofs.Operators
import CirkitModel.Proofs.Norm
import CirkitModel.Proofs.Sample

open Finset

namespace Cirkit.C15

section Order
variable {R V : Type} [CommSemiring R] [PartialOrder R]

/-- Every assignment the sampler can return has positive probability. -/
theorem sample_support [IsStrictOrderedRing R] (n : Node R V) (hnn : n.NonNeg) (i : ℕ)
    (x : ℕ → V) (hr : n.Reach i x) : 0 < n.eval (Ops.ofCommSemiring R) x i :=
  Node.sample_support n hnn i x hr

end Order

section Law
variable {R V : Type} [CommSemiring R]

/-- Mixture equation: unit `i` of a sum layer is the `W i`-weighted mixture of the units of its
    inputs (the sampler picks column `h * kin + j` with probability `W i (h * kin + j)`). -/
theorem sample_law_sum (x : ℕ → V) (ar kin kout : ℕ) (W : ℕ → ℕ → R) (ch : Fin ar → Node R V)
    (i : ℕ) :
    (Node.sum ar kin kout W ch).eval (Ops.ofCommSemiring R) x i
      = ∑ h : Fin ar, ∑ j ∈ range kin,
          W i (h.val * kin + j) * (ch h).eval (Ops.ofCommSemiring R) x j :=
  Node.eval_sum x ar kin kout W ch i

/-- Independent-product equation of a Hadamard layer (the sampler continues in every input at
    the same unit; the inputs have disjoint scopes). -/
theorem sample_law_had (x : ℕ → V) (ar k : ℕ) (ch : Fin ar → Node R V) (i : ℕ) :
    (Node.had ar k ch).eval (Ops.ofCommSemiring R) x i
      = ∏ h : Fin ar, (ch h).eval (Ops.ofCommSemiring R) x i :=
  Node.eval_had x ar k ch i

/-- Independent-product equation of a Kronecker layer (the sampler continues in input `h` at
    the `h`-th base-`k` digit of the unit index). -/
theorem sample_law_kron (x : ℕ → V) (ar k : ℕ) (ch : Fin ar → Node R V) (i : ℕ) :
    (Node.kron ar k ch).eval (Ops.ofCommSemiring R) x i
      = ∏ h : Fin ar, (ch h).eval (Ops.ofCommSemiring R) x (digit k ar h.val i) :=
  Node.eval_kron x ar k ch i

/-- The equations that define the law of the top-down sampler, together (the statements of C01
    `eval_sum_layer`, `eval_hadamard_layer`, `eval_kronecker_layer`). -/
theorem sample_law_equations (x : ℕ → V) (ar kin kout k : ℕ) (W : ℕ → ℕ → R)
    (ch : Fin ar → Node R V) (i : ℕ) :
    ((Node.sum ar kin kout W ch).eval (Ops.ofCommSemiring R) x i
        = ∑ h : Fin ar, ∑ j ∈ range kin,
            W i (h.val * kin + j) * (ch h).eval (Ops.ofCommSemiring R) x j)
    ∧ ((Node.had ar k ch).eval (Ops.ofCommSemiring R) x i
        = ∏ h : Fin ar, (ch h).eval (Ops.ofCommSemiring R) x i)
    ∧ ((Node.kron ar k ch).eval (Ops.ofCommSemiring R) x i
        = ∏ h : Fin ar, (ch h).eval (Ops.ofCommSemiring R) x (digit k ar h.val i)) :=
  ⟨Node.eval_sum x ar kin kout W ch i, Node.eval_had x ar k ch i, Node.eval_kron x ar k ch i⟩

end Law

/-- The denoted function of a non-negative normalised circuit is a probability distribution
    over its scope: non-negative, and summing to one over the whole scope `zs`. -/
theorem eval_is_distribution {R V : Type} [CommSemiring R] [PartialOrder R] [IsOrderedRing R]
    (n : Node R V) (S : ℕ → (V → R) → R) (hS : ∀ v, LinFun (S v)) (zs : List ℕ)
    (hnd : zs.Nodup) (hz : ∀ z ∈ zs, Node.Mem z n) (hall : ∀ v, Node.Mem v n → v ∈ zs)
    (hs : n.Smooth) (hd : n.Decomp) (hwf : n.WF) (hnn : n.NonNeg) (hn : n.Norm S)
    (x : ℕ → V) (i : ℕ) (hi : i < n.units) :
    (∀ y, 0 ≤ n.eval (Ops.ofCommSemiring R) y i)
      ∧ Node.sumOver S zs (fun y' => n.eval (Ops.ofCommSemiring R) y' i) x = 1 :=
  ⟨fun y => Node.eval_nonneg n hnn y i,
    Node.normalised_marginal n S hS zs hnd hz hall hs hd hwf hn x i hi⟩

/-- Non-vacuity: in the mixture `½·(f₀ ⊙ f₁) + ½·(f₀ ⊙ f₁)` with `f = ½` everywhere, every
    assignment is reachable from unit 0. -/
example (x : ℕ → Bool) :
    (Node.sum 1 2 1 (fun _ _ => (1 / 2 : ℚ))
      (fun _ => Node.had 2 2 (fun h => Node.leaf h.val 2 (fun _ (_ : Bool) => (1 / 2 : ℚ))))).Reach
      0 x :=
  Node.Reach.sum 0 0 (by decide) (by decide +kernel : (0 : ℚ) < 1 / 2)
    (Node.Reach.had fun _ => Node.Reach.leaf (by decide +kernel : (0 : ℚ) < 1 / 2))

section Propagate
variable {R V A : Type}

/-- Rows are zero outside the scope of their layer, so the rows a product layer adds have disjoint
    supports when the circuit is decomposable. -/
theorem propagate_support [AddCommMonoid A] (n : Node R V) (d : Draw A) (i v : ℕ)
    (h : n.propagate 0 (· + ·) d i v ≠ 0) : Node.Mem v n :=
  Node.propagate_support n d i v h

/-- For a decomposable circuit and any draws, column `v` of the bottom-up row of unit `i` is the
    value the top-down walk from unit `i` assigns to `v` (zero if none). -/
theorem propagate_eq_follow [AddCommMonoid A] (n : Node R V) (hd : n.Decomp) (d : Draw A)
    (i v : ℕ) : n.propagate 0 (· + ·) d i v = (n.follow d i v).getD 0 :=
  Node.propagate_eq_follow n hd d i v

/-- The walk from a unit of a smooth well-formed circuit (draws that fit, `Node.Fits`: drawn
    columns are columns of the weight matrix) assigns a value to `v` iff `v` is in the scope, and
    the value is the one drawn by unit `r` of an input layer over `v` sitting at some position `p`
    of the tree (`Node.LeafAt`). -/
theorem follow_complete (n : Node R V) (hs : n.Smooth) (hwf : n.WF) (d : Draw A)
    (hf : n.Fits d) (i : ℕ) (hi : i < n.units) :
    (∀ v, Node.Mem v n ↔ (n.follow d i v).isSome)
      ∧ ∀ v a, n.follow d i v = some a → ∃ p r, n.LeafAt v p r ∧ a = d.val p r :=
  have hc := Node.follow_complete n hwf d hf i hi
  ⟨fun v => ⟨hc.1 hs v, fun h =>
      (Option.isSome_iff_exists.mp h).elim fun a ha => Node.follow_some_mem n d i v a ha⟩, hc.2⟩

/-- The row the implementation returns (smooth, decomposable, well-formed circuit, fitting draws)
    is zero outside the scope; inside the scope, column `v` holds the value drawn by a unit of an
    input layer over `v`. -/
theorem propagate_complete [AddCommMonoid A] (n : Node R V) (hs : n.Smooth) (hd : n.Decomp)
    (hwf : n.WF) (d : Draw A) (hf : n.Fits d) (i : ℕ) (hi : i < n.units) (v : ℕ) :
    (¬ Node.Mem v n → n.propagate 0 (· + ·) d i v = 0)
      ∧ (Node.Mem v n → ∃ p r, n.LeafAt v p r ∧ n.propagate 0 (· + ·) d i v = d.val p r) := by
  have hc := Node.follow_complete n hwf d hf i hi
  refine ⟨fun hv => not_not.1 fun hne => hv (Node.propagate_support n d i v hne), fun hv => ?_⟩
  obtain ⟨a, ha⟩ := Option.isSome_iff_exists.mp (hc.1 hs v hv)
  obtain ⟨p, r, hl, e⟩ := hc.2 v a ha
  exact ⟨p, r, hl, by rw [Node.propagate_eq_follow n hd d i v, ha, e]; rfl⟩

end Propagate

section PropagateReach
variable {R V : Type} [CommSemiring R] [PartialOrder R]

/-- If all drawn columns have positive weight and all drawn values positive density
    (`Node.DrawPos`), every total assignment agreeing with the walk is one the top-down sampler can
    return. -/
theorem follow_reach (n : Node R V) (hwf : n.WF) (hd : n.Decomp) (d : Draw V) (hf : n.Fits d)
    (hp : n.DrawPos d) (i : ℕ) (hi : i < n.units) (x : ℕ → V)
    (hx : ∀ v a, n.follow d i v = some a → x v = a) : n.Reach i x :=
  Node.follow_reach n hwf hd d hf hp i hi x hx

theorem follow_reach_getD (n : Node R V) (hwf : n.WF) (hd : n.Decomp) (d : Draw V)
    (hf : n.Fits d) (hp : n.DrawPos d) (i : ℕ) (hi : i < n.units) (y : ℕ → V) :
    n.Reach i (fun v => (n.follow d i v).getD (y v)) :=
  Node.follow_reach n hwf hd d hf hp i hi _ fun v _ h => congrArg (·.getD (y v)) h

/-- The row the implementation returns is an assignment the top-down sampler can return. -/
theorem propagate_reach [AddCommMonoid V] (n : Node R V) (hwf : n.WF) (hd : n.Decomp)
    (d : Draw V) (hf : n.Fits d) (hp : n.DrawPos d) (i : ℕ) (hi : i < n.units) :
    n.Reach i (fun v => n.propagate 0 (· + ·) d i v) :=
  Node.follow_reach n hwf hd d hf hp i hi _ fun v _ h =>
    (Node.propagate_eq_follow n hd d i v).trans (congrArg (·.getD 0) h)

/-- Every returned sample has positive probability: the row computed by the bottom-up
    propagation, under draws of positive mass, has positive value at the unit it was read from. -/
theorem propagate_positive [IsStrictOrderedRing R] [AddCommMonoid V] (n : Node R V)
    (hnn : n.NonNeg) (hwf : n.WF) (hd : n.Decomp) (d : Draw V) (hf : n.Fits d)
    (hp : n.DrawPos d) (i : ℕ) (hi : i < n.units) :
    0 < n.eval (Ops.ofCommSemiring R) (fun v => n.propagate 0 (· + ·) d i v) i :=
  Node.sample_support n hnn i _ (propagate_reach n hwf hd d hf hp i hi)

end PropagateReach

namespace Example

/-- `Σ` of arity 2 over two Hadamard layers, each over an input layer of variable 0 and one of
    variable 1, two units everywhere; uniform weights and densities. -/
def circ : Node ℚ ℕ :=
  .sum 2 2 1 (fun _ _ => 1 / 4)
    fun _ => .had 2 2 fun g => .leaf g.val 2 (fun _ _ => 1 / 2)

/-- The unit `r` of the input layer at position `[h, g]` drew `100 h + 10 g + r + 1`; the root drew
    column 3 (input 1, unit 1); nothing else is read. -/
def draws : Draw ℕ :=
  { val := fun p r => match p with
      | [h, g] => 100 * h + 10 * g + r + 1
      | _ => 0
    col := fun _ _ => 3 }

/-- The propagated row of unit 0 over variables 0, 1, 2: the values of unit 1 of the two input
    layers below input 1, and zero for the variable outside the scope. -/
example : (List.range 3).map (circ.propagate 0 (· + ·) draws 0) = [102, 112, 0] := by decide

/-- The walk assigns the same. -/
example : (List.range 3).map (circ.follow draws 0) = [some 102, some 112, none] := by decide

/-- Decomposability is needed: over a Hadamard layer of two input layers on the SAME variable the
    propagation adds two values where the walk takes one. -/
example :
    let n : Node ℚ ℕ := .had 2 1 fun _ => .leaf 0 1 (fun _ _ => 1)
    let d : Draw ℕ := { val := fun _ _ => 5, col := fun _ _ => 0 }
    n.propagate 0 (· + ·) d 0 0 = 10 ∧ n.follow d 0 0 = some 5 := by decide

theorem circ_wf : circ.WF := fun _ => ⟨fun _ => ⟨trivial, rfl⟩, rfl⟩

theorem circ_decomp : circ.Decomp :=
  fun _ => ⟨fun _ => trivial, fun _ _ _ hne e e' => hne (Fin.ext (e.symm.trans e'))⟩

theorem circ_smooth : circ.Smooth :=
  ⟨fun _ => fun _ => trivial, fun _ _ _ => Iff.rfl⟩

theorem circ_fits : circ.Fits draws :=
  ⟨fun _ _ => (by decide : (3 : ℕ) < 2 * 2), fun _ => fun _ => trivial⟩

theorem circ_drawPos : circ.DrawPos draws :=
  ⟨fun _ _ => (by decide +kernel : (0 : ℚ) < 1 / 4),
    fun _ => fun _ => fun _ _ => (by decide +kernel : (0 : ℚ) < 1 / 2)⟩

theorem circ_nonneg : circ.NonNeg :=
  ⟨fun _ _ => (by decide +kernel : (0 : ℚ) ≤ 1 / 4),
    fun _ => fun _ => fun _ _ => (by decide +kernel : (0 : ℚ) ≤ 1 / 2)⟩

/-- The hypotheses of `propagate_eq_follow`, `follow_complete`, `follow_reach` and
    `propagate_positive` are jointly satisfiable, and the conclusion is about the non-trivial row
    `[102, 112]` computed above. -/
example :
    0 < circ.eval (Ops.ofCommSemiring ℚ) (fun v => circ.propagate 0 (· + ·) draws 0 v) 0 :=
  propagate_positive circ circ_nonneg circ_wf circ_decomp draws circ_fits circ_drawPos 0
    (by decide)

example : ∀ v, Node.Mem v circ ↔ (circ.follow draws 0 v).isSome :=
  (follow_complete circ circ_smooth circ_wf draws circ_fits 0 (by decide)).1

end Example

end Cirkit.C15
