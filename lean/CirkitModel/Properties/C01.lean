/-
  C01 — the compiled circuit computes the function its symbolic circuit denotes.

  Theorems are about the model (`CirkitModel.Model.Node`); the correspondence check
  (harness/c01.py) runs `Node.evalV` — proved here to be the denotation `Node.eval` — against the
  real compiled PyTorch circuit under every flag / semiring combination.

  Full statement: for every well-formed symbolic circuit, parameter valuation and
  input batch, the compiled circuit returns, per output and unit, `Node.eval` of the denoted tree,
  expressed in the chosen semiring; shape (batch, outputs, units), outputs in declared order, each
  row a function of its own input row.
  Proved here: the denotation in Mathlib form (`eval_sum_layer`, `eval_hadamard_layer`,
  `eval_kronecker_layer`), executable = denotation (`evalV_correct`, `evalV_size_units`), the sum
  layer's flatten-concat-einsum is the documented double sum (`sum_forward_concat`), the Kronecker
  layer's iterated flatten loop yields mixed-radix order (`kron_forward_loop`), row independence of
  batched evaluation (`batch_rowwise`), semiring transport along a bijection (`eval_transport`)
  and the max-shifted log-sum-exp identity (`lse_shift`).
  Partial (runtime, exercised by the tie only): float rounding, exp/log over/underflow, the branch
  cut of the complex logarithm, torch kernels.
-/
import CirkitModel.Proofs.Bridge
import CirkitModel.Proofs.EvalV
import CirkitModel.Proofs.Index
import CirkitModel.Proofs.KronLoop
import CirkitModel.Proofs.Operators
import CirkitModel.Proofs.Transport
import CirkitModel.Proofs.LseShift

open Finset

namespace Cirkit.C01
variable {R V : Type} [CommSemiring R]

/-- A sum layer denotes `W · concat(inputs)` with column `h * kin + j` for unit `j` of input `h`. -/
theorem eval_sum_layer (x : ℕ → V) (ar kin kout : ℕ) (W : ℕ → ℕ → R) (ch : Fin ar → Node R V)
    (i : ℕ) :
    (Node.sum ar kin kout W ch).eval (Ops.ofCommSemiring R) x i
      = ∑ h : Fin ar, ∑ j ∈ range kin,
          W i (h.val * kin + j) * (ch h).eval (Ops.ofCommSemiring R) x j :=
  Node.eval_sum x ar kin kout W ch i

theorem eval_hadamard_layer (x : ℕ → V) (ar k : ℕ) (ch : Fin ar → Node R V) (i : ℕ) :
    (Node.had ar k ch).eval (Ops.ofCommSemiring R) x i
      = ∏ h : Fin ar, (ch h).eval (Ops.ofCommSemiring R) x i :=
  Node.eval_had x ar k ch i

/-- Kronecker layer: unit `i` multiplies unit `digit_h(i)` (base `k`, first input most
    significant) of input `h`. -/
theorem eval_kronecker_layer (x : ℕ → V) (ar k : ℕ) (ch : Fin ar → Node R V) (i : ℕ) :
    (Node.kron ar k ch).eval (Ops.ofCommSemiring R) x i
      = ∏ h : Fin ar, (ch h).eval (Ops.ofCommSemiring R) x (digit k ar h.val i) :=
  Node.eval_kron x ar k ch i

/-- What the driver executes is the denotation (any operation record, any well-formed tree). -/
theorem evalV_correct {S : Type} (o : Ops S) (x : ℕ → V) (n : Node S V) (hwf : n.WF) (i : ℕ)
    (hi : i < n.units) (d : S) : (n.evalV o x).getD i d = n.eval o x i :=
  Node.evalV_getD hwf hi d

/-- One value per unit: the result shape is (…, units). -/
theorem evalV_size_units {S : Type} (o : Ops S) (x : ℕ → V) (n : Node S V) :
    (n.evalV o x).size = n.units := Node.evalV_size o x n

/-- `TorchSumLayer.forward`: `permute(0,2,1,3).flatten(2)` lays unit `j` of input `h` at column
    `h * kin + j`; the einsum `fbi,foi->fbo` over that axis is the double sum of the denotation. -/
theorem sum_forward_concat (ar kin : ℕ) (Wrow : ℕ → R) (e : ℕ → ℕ → R) :
    ∑ c ∈ range (ar * kin), Wrow c * e (c / kin) (c % kin)
      = ∑ h ∈ range ar, ∑ j ∈ range kin, Wrow (h * kin + j) * e h j :=
  sum_range_mul_divMod ar kin fun c h j => Wrow c * e h j

/-- `TorchKroneckerLayer.forward`: the loop `y0 ← flatten(y0[:, None] * x_i[None, :])` over the
    inputs yields, at flat index `i`, the product of the mixed-radix digits of `i`.  (`hk` is not
    used: `hi` already excludes `k = 0` unless there are no inputs.) -/
theorem kron_forward_loop (k : ℕ) (hk : 0 < k) (vs : List (ℕ → R)) (i : ℕ)
    (hi : i < k ^ vs.length) :
    kronLoop (Ops.ofCommSemiring R) k vs i
      = ∏ h : Fin vs.length, (vs.get h) (digit k vs.length h.val i) :=
  kronLoop_eq k vs i hi

theorem batch_rowwise {S : Type} (o : Ops S) (n : Node S V) (rows : List (ℕ → V)) (b : ℕ)
    (hb : b < rows.length) :
    (rows.map (fun x => n.evalV o x))[b]'(by simpa using hb) = n.evalV o (rows[b]) :=
  List.getElem_map _

theorem outputs_in_order {S : Type} (o : Ops S) (c : Circ S V) (x : ℕ → V) (j : ℕ)
    (hj : j < c.outputs.length) :
    (c.outputs.map (fun n => n.evalV o x))[j]'(by simpa using hj) = (c.outputs[j]).evalV o x :=
  List.getElem_map _

/-- Semiring transport: evaluating with the operations pulled back along a bijection `φ : R ≃ L`
    (`a ⊕ b = φ(φ⁻¹a + φ⁻¹b)`, `a ⊗ b = φ(φ⁻¹a · φ⁻¹b)`: the log-space semirings with φ = log)
    gives `φ` of the linear-space value. -/
theorem eval_transport {L : Type} (φ : R ≃ L) (x : ℕ → V) (n : Node R V) (i : ℕ) :
    (n.mapVals φ).eval (Ops.transport (Ops.ofCommSemiring R) φ φ.symm) x i
      = φ (n.eval (Ops.ofCommSemiring R) x i) :=
  Node.eval_transport φ x n i

/-- `LSESumSemiring.apply_reduce`: shifting by any `m` before exponentiating and adding it back
    after the logarithm does not change `log Σ w_i exp(x_i)` (when the sum is positive). -/
theorem lse_shift {ι : Type} (s : Finset ι) (w x : ι → ℝ) (m : ℝ)
    (hpos : 0 < ∑ i ∈ s, w i * Real.exp (x i)) :
    Real.log (∑ i ∈ s, w i * Real.exp (x i - m)) + m = Real.log (∑ i ∈ s, w i * Real.exp (x i)) :=
  lse_shift_real s w x m hpos

/-- `ComplexLSESumSemiring.apply_reduce` shifts by a *real* `m`; in linear space (through `exp`)
    the shift cancels.  (`_partial`: the statement is about `exp` of the result; the principal
    branch of the complex logarithm is runtime.) -/
theorem clse_shift_partial {ι : Type} (s : Finset ι) (w x : ι → ℂ) (m : ℝ) :
    (∑ i ∈ s, w i * Complex.exp (x i - (m : ℂ))) * Complex.exp (m : ℂ)
      = ∑ i ∈ s, w i * Complex.exp (x i) :=
  clse_shift s w x m

/-- non-vacuity: a concrete well-formed tree with a Kronecker and a sum layer -/
example : (Node.sum 1 4 1 (fun _ c => (c : ℚ) + 1)
    (fun _ => Node.kron 2 2 (fun h => Node.leaf h.val 2 (fun i (a : ℕ) => (i + a : ℚ))))).WF := by
  intro h; refine ⟨?_, rfl⟩; intro h'; exact ⟨trivial, rfl⟩

end Cirkit.C01
