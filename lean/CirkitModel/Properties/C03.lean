/-
  C03 — `integrate` computes the integral of the denoted function.

  Theorems are about the model (`CirkitModel.Model.Node`): `Node.integ1` / `Node.integ` replace
  every input layer over an integrated variable by the constant layer of its integrals
  (`cirkit.symbolic.functional.integrate`).  For a smooth and decomposable tree and linear
  functionals `S v` (a sum over a discrete domain or any quadrature rule: `quad_linFun`) the
  result denotes the iterated integral of the operand (`integ1_correct`, `integrate_correct`);
  its scope is the operand's scope minus the integrated variables (`mem_integ1`,
  `integrate_scope`); well-formedness, unit counts, smoothness and decomposability are preserved;
  integrating in two steps or in another order gives the same circuit function
  (`integrate_integrate`, `integrate_union_order`).
  Proofs: `CirkitModel.Proofs.Operators`.
-/
import CirkitModel.Proofs.Bridge
import CirkitModel.Proofs.Operators

namespace Cirkit.C03
variable {R V : Type} [CommSemiring R]

theorem eval_upd_of_not_mem (n : Node R V) (v : ℕ) (hv : ¬ Node.Mem v n) (x : ℕ → V) (a : V)
    (i : ℕ) :
    n.eval (Ops.ofCommSemiring R) (Node.upd x v a) i = n.eval (Ops.ofCommSemiring R) x i :=
  Node.eval_upd_of_not_mem _ n v hv x a i

omit [CommSemiring R] in
theorem integ1_of_not_mem (n : Node R V) (v : ℕ) (S : (V → R) → R) (hv : ¬ Node.Mem v n) :
    n.integ1 v S = n :=
  Node.integ1_of_not_mem n v S hv

theorem integ1_correct (n : Node R V) (v : ℕ) (S : (V → R) → R) (hS : LinFun S)
    (hv : Node.Mem v n) (hs : n.Smooth) (hd : n.Decomp) (y : ℕ → V) (i : ℕ) :
    (n.integ1 v S).eval (Ops.ofCommSemiring R) y i
      = S (fun a => n.eval (Ops.ofCommSemiring R) (Node.upd y v a) i) :=
  Node.integ1_correct n v S hS hv hs hd y i

omit [CommSemiring R] in
theorem mem_integ1 (n : Node R V) (v z : ℕ) (S : (V → R) → R) :
    Node.Mem z (n.integ1 v S) ↔ (Node.Mem z n ∧ z ≠ v) :=
  Node.mem_integ1 n v z S

omit [CommSemiring R] in
theorem integ1_smooth (n : Node R V) (v : ℕ) (S : (V → R) → R) (hs : n.Smooth) :
    (n.integ1 v S).Smooth :=
  Node.integ1_eq_close n v S ▸ Node.close_smooth _ n hs

omit [CommSemiring R] in
theorem integ1_decomp (n : Node R V) (v : ℕ) (S : (V → R) → R) (hd : n.Decomp) :
    (n.integ1 v S).Decomp :=
  Node.integ1_eq_close n v S ▸ Node.close_decomp _ n hd

omit [CommSemiring R] in
theorem integ1_wf (n : Node R V) (v : ℕ) (S : (V → R) → R) (h : n.WF) : (n.integ1 v S).WF :=
  Node.integ1_eq_close n v S ▸ Node.close_wf _ n h

omit [CommSemiring R] in
theorem integ1_units (n : Node R V) (v : ℕ) (S : (V → R) → R) :
    (n.integ1 v S).units = n.units :=
  Node.integ1_eq_close n v S ▸ Node.close_units _ n

theorem integrate_correct (n : Node R V) (S : ℕ → (V → R) → R) (hS : ∀ v, LinFun (S v))
    (zs : List ℕ) (hnd : zs.Nodup) (hz : ∀ z ∈ zs, Node.Mem z n) (hs : n.Smooth) (hd : n.Decomp)
    (y : ℕ → V) (i : ℕ) :
    (n.integ S zs).eval (Ops.ofCommSemiring R) y i
      = Node.sumOver S zs (fun y' => n.eval (Ops.ofCommSemiring R) y' i) y :=
  Node.integ_correct n S hS zs hnd hz hs hd y i

omit [CommSemiring R] in
theorem integrate_scope (n : Node R V) (S : ℕ → (V → R) → R) (zs : List ℕ) (z : ℕ) :
    Node.Mem z (n.integ S zs) ↔ (Node.Mem z n ∧ z ∉ zs) :=
  Node.mem_integ n S zs z

omit [CommSemiring R] in
theorem integrate_integrate (n : Node R V) (S : ℕ → (V → R) → R) (zs1 zs2 : List ℕ) :
    n.integ S (zs1 ++ zs2) = (n.integ S zs1).integ S zs2 :=
  Node.integ_append n S zs1 zs2

set_option linter.unusedVariables false in
/-- The order in which the variables are listed does not matter.  (The integrated circuits are
    even syntactically equal — `Node.integ_perm` — so the side conditions, which are those of
    `integrate_correct`, are not used by the proof.) -/
theorem integrate_union_order (n : Node R V) (S : ℕ → (V → R) → R) (hS : ∀ v, LinFun (S v))
    (zs zs' : List ℕ) (hperm : zs.Perm zs') (hnd : zs.Nodup) (hz : ∀ z ∈ zs, Node.Mem z n)
    (hs : n.Smooth) (hd : n.Decomp) (y : ℕ → V) (i : ℕ) :
    (n.integ S zs).eval (Ops.ofCommSemiring R) y i
      = (n.integ S zs').eval (Ops.ofCommSemiring R) y i := by
  rw [Node.integ_perm n S zs zs' hperm]

/-- non-vacuity: the hypotheses of `integ1_correct` hold for a concrete tree — a sum over the
    Hadamard product of two leaves over the variables 0 and 1, integrated over `{0, 1}` with unit
    weights. -/
example :
    let n : Node ℚ ℕ := Node.sum 1 2 1 (fun _ c => (c : ℚ) + 1)
      (fun _ => Node.had 2 2 (fun h => Node.leaf h.val 2 (fun i (a : ℕ) => (i + a : ℚ))))
    LinFun (Node.quad (Ops.ofCommSemiring ℚ) [0, 1] (fun _ : ℕ => (1 : ℚ)))
      ∧ Node.Mem 0 n ∧ n.Smooth ∧ n.Decomp := by
  refine ⟨quad_linFun _ _, ⟨0, 0, rfl⟩, ⟨fun _ => fun _ => trivial, fun h h' v => ?_⟩,
    fun _ => ⟨fun _ => trivial, fun h h' v hne hm hm' => ?_⟩⟩
  · rw [Subsingleton.elim h h']
  · simp only [Node.Mem] at hm hm'
    exact hne (Fin.ext (hm.symm.trans hm'))

end Cirkit.C03
