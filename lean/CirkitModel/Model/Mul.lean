/-
  CirkitModel.Model.Mul — the model of `functional.multiply` at the level of the denoted function.
  Import-free.

  Mirrors `cirkit/symbolic/functional.py::multiply` (which pairs of layers are multiplied, in which
  order the inputs of product layers are paired, the Kronecker layer introduced for disjoint
  scopes) and the layer rules of `cirkit/symbolic/operators.py` (`multiply_*_layers`: unit order
  `i * K2 + j`, the weight layout of the product sum layer, the permutation sum layer on top of the
  product of two Kronecker layers).
-/
import CirkitModel.Model.Node
import CirkitModel.Model.Scope

namespace Cirkit

inductive MulErr where
  /-- layers over disjoint scopes must have the same number of units (`NotImplementedError`) -/
  | unitMismatch
  /-- no product rule for this pair of layers / different arities / differently ordered inputs -/
  | unsupported
  deriving Repr, BEq

namespace Node
variable {R V : Type}

/-- canonical scope (strictly increasing list) -/
def scopeL (n : Node R V) : Scope := Scope.ofList n.vars

/-- collect a family of results -/
def allOk {E α : Type} {n : Nat} (f : Fin n → Except E α) : Except E (List α) :=
  (List.ofFn f).mapM id

/-- rank of `h` among the children when sorted by the canonical scope order (stable):
    the number of children that come strictly before it -/
def rankOf {ar : Nat} (key : Fin ar → Scope) (h : Fin ar) : Nat :=
  ((List.finRange ar).filter fun g =>
    Scope.lexLt (key g) (key h) || (!Scope.lexLt (key h) (key g) && g.val < h.val)).length

/-- the child at position `p` of the sorted order -/
def atRank {ar : Nat} (key : Fin ar → Scope) (p : Nat) : Option (Fin ar) :=
  (List.finRange ar).find? fun h => rankOf key h == p

/-- the index the permutation sum layer on top of `kron × kron` reads for output unit `i`:
    `i = i1 * k2^ar + i2`, digit `h` of the result (base `k1 * k2`) is `digit_h(i1) * k2 + digit_h(i2)` -/
def kronPermIdx (k1 k2 ar : Nat) (i : Nat) : Nat :=
  let i1 := i / k2 ^ ar
  let i2 := i % k2 ^ ar
  (List.range ar).foldl (fun acc h => acc * (k1 * k2) + (digit k1 ar h i1 * k2 + digit k2 ar h i2)) 0

theorem div_lt_of_lt_mul' {a b n : Nat} (h : n < a * b) : n / b < a :=
  Nat.div_lt_of_lt_mul (Nat.mul_comm a b ▸ h)

theorem mod_lt_of_lt_mul' {a b n : Nat} (h : n < a * b) : n % b < b :=
  Nat.mod_lt _ (Nat.pos_of_lt_mul_left h)

/-- layers over disjoint scopes: a fresh Kronecker layer over the two sub-circuits (same size) -/
def mulDisjoint (n1 n2 : Node R V) : Option (Except MulErr (Node R V)) :=
  if Scope.disjoint n1.scopeL n2.scopeL then
    some (if n1.units = n2.units then
      .ok (.kron 2 n1.units (fun h => if h.val = 0 then n1 else n2))
    else .error .unitMismatch)
  else none

/-- Product of two layers (`multiply` on the sub-circuits rooted at them). -/
def mul (o : Ops R) : Node R V → Node R V → Except MulErr (Node R V)
  | n1@(.leaf v1 k1 f1), n2 =>
      match mulDisjoint n1 n2 with
      | some r => r
      | none =>
        match n2 with
        | .leaf v2 k2 f2 =>
            if v1 = v2 then
              .ok (.leaf v1 (k1 * k2) (fun i a => o.mul (f1 (i / k2) a) (f2 (i % k2) a)))
            else .error .unsupported
        | _ => .error .unsupported
  | n1@(.const _ _), n2 =>
      match mulDisjoint n1 n2 with
      | some r => r
      | none => .error .unsupported
  | n1@(.sum ar1 kin1 ko1 W1 ch1), n2 =>
      match mulDisjoint n1 n2 with
      | some r => r
      | none =>
        match n2 with
        | .sum ar2 kin2 ko2 W2 ch2 => do
            let dflt : Node R V := .const 0 (fun _ => o.zero)
            let cs ← allOk (n := ar1 * ar2) fun h =>
              mul o (ch1 ⟨h.val / ar2, div_lt_of_lt_mul' h.isLt⟩) (ch2 ⟨h.val % ar2, mod_lt_of_lt_mul' h.isLt⟩)
            .ok (.sum (ar1 * ar2) (kin1 * kin2) (ko1 * ko2)
              (fun i c =>
                let h := c / (kin1 * kin2)
                let j := c % (kin1 * kin2)
                o.mul (W1 (i / ko2) ((h / ar2) * kin1 + j / kin2))
                      (W2 (i % ko2) ((h % ar2) * kin2 + j % kin2)))
              (fun h => cs.getD h.val dflt))
        | _ => .error .unsupported
  | n1@(.had ar1 k1 ch1), n2 =>
      match mulDisjoint n1 n2 with
      | some r => r
      | none =>
        match n2 with
        | .had ar2 k2 ch2 =>
            if ar1 = ar2 then do
              let dflt : Node R V := .const 0 (fun _ => o.zero)
              -- inputs are paired after sorting both lists by the canonical scope order
              let key1 : Fin ar1 → Scope := fun h => (ch1 h).scopeL
              let key2 : Fin ar2 → Scope := fun h => (ch2 h).scopeL
              let cs ← allOk (n := ar1) fun p =>
                match atRank key1 p.val, atRank key2 p.val with
                | some h1, some h2 => mul o (ch1 h1) (ch2 h2)
                | _, _ => .error .unsupported
              .ok (.had ar1 (k1 * k2) (fun h => cs.getD h.val dflt))
            else .error .unsupported
        | _ => .error .unsupported
  | n1@(.kron ar1 k1 ch1), n2 =>
      match mulDisjoint n1 n2 with
      | some r => r
      | none =>
        match n2 with
        | .kron ar2 k2 ch2 =>
            if h : ar1 = ar2 then
              -- inputs keep their order; both must list the same scopes in the same order
              if (List.finRange ar1).all (fun g => (ch1 g).scopeL == (ch2 (h ▸ g)).scopeL) then do
                let dflt : Node R V := .const 0 (fun _ => o.zero)
                let cs ← allOk (n := ar1) fun g => mul o (ch1 g) (ch2 (h ▸ g))
                let K := k1 * k2
                .ok (.sum 1 (K ^ ar1) (K ^ ar1)
                  (fun i c => if c = kronPermIdx k1 k2 ar1 i then o.one else o.zero)
                  (fun _ => .kron ar1 K (fun g => cs.getD g.val dflt)))
              else .error .unsupported
            else .error .unsupported
        | _ => .error .unsupported

end Node

/-- `multiply` on circuits: output `(o1, o2)` at position `o1 * |O2| + o2`. -/
def Circ.mul {R V : Type} (o : Ops R) (c1 c2 : Circ R V) : Except MulErr (Circ R V) := do
  let outs ← (c1.outputs.flatMap fun n1 => c2.outputs.map fun n2 => Node.mul o n1 n2).mapM id
  .ok ⟨outs⟩

end Cirkit
