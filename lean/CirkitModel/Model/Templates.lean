/-
  CirkitModel.Model.Templates — the layer trees built by the circuit templates
  `cirkit/templates/tensor_factorizations.py` (`cp`, `tucker`, `tensor_train`) and
  `cirkit/templates/pgms.py` (`hmm`, `fully_factorized`), as computable builders of `Node R V`.

  Import-free (core Lean only): the driver executes these builders (`Driver/TemplateCmd.lean`) and
  `CirkitModel/Proofs/Templates.lean` / `Properties/C20.lean` prove what they evaluate to.

  Conventions shared by all builders
  * an input layer over variable `v` with `k` units is `Node.leaf v k f`, unit `r` computes
    `f r (x v)`.  For an `EmbeddingLayer` with weight `E` of shape `(num_units, num_states)` this is
    `f r a = E[r, a]` (`tbl2`);
  * a sum layer of arity `H` over inputs with `kin` units reads column `h * kin + j` of its weight
    for unit `j` of input `h` (`Node.sum`);
  * the DAG of the real circuit is unfolded into a tree (a shared layer is repeated); the denoted
    function is the same.
-/
import CirkitModel.Model.Node

namespace Cirkit.Tpl
variable {R V : Type}

/-! ### table look-ups (plain data → the Nat-indexed functions the builders take) -/

/-- entry `i` of a vector given as a list, `z` outside -/
def tbl1 (z : R) (t : List R) (i : Nat) : R := t.getD i z

/-- entry `[r, a]` of a matrix given as a list of rows, `z` outside -/
def tbl2 (z : R) (t : List (List R)) (r a : Nat) : R := (t.getD r []).getD a z

/-- entry `[m][r, a]` of a list of matrices -/
def tbl3 (z : R) (t : List (List (List R))) (m r a : Nat) : R := tbl2 z (t.getD m []) r a

/-- entry `[m][q][r, a]` of a list of lists of matrices -/
def tbl4 (z : R) (t : List (List (List (List R)))) (m q r a : Nat) : R := tbl3 z (t.getD m []) q r a

/-! ### CP — `tensor_factorizations.cp(shape, rank)`

  `embedding_layers[j] = Embedding(Scope([j]), rank)` for `j = 0 … n-1` (`n = len(shape)`),
  `hadamard_layer = HadamardLayer(rank, arity=n)` over them in that order,
  `sum_layer = SumLayer(rank, 1, arity=1, weight=w)` (`w` has shape `(1, rank)`; all ones when
  `weight_param is None`) over the Hadamard layer; output = the sum layer. -/

/-- `A j r a` = unit `r` of the factor of mode `j` at index `a`; `w r` = the weight of rank `r`. -/
def cpNode (n rank : Nat) (w : Nat → R) (A : Nat → Nat → V → R) : Node R V :=
  .sum 1 rank 1 (fun _ c => w c)
    (fun _ => .had n rank (fun j => .leaf j.val rank (A j.val)))

/-! ### Tucker — `tensor_factorizations.tucker(shape, rank)`

  Same embeddings; `kronecker_layer = KroneckerLayer(rank, arity=n)` over them in order (first
  mode most significant in the unit index), `sum_layer = SumLayer(rank ** n, 1, arity=1)` whose
  weight row (shape `(1, rank ** n)`) is the core tensor flattened in row-major order. -/

/-- `core c` = entry `c` of the flattened core (`c < rank ^ n`). -/
def tuckerNode (n rank : Nat) (core : Nat → R) (A : Nat → Nat → V → R) : Node R V :=
  .sum 1 (rank ^ n) 1 (fun _ c => core c)
    (fun _ => .kron n rank (fun j => .leaf j.val rank (A j.val)))

/-! ### tensor train — `tensor_factorizations.tensor_train(shape, rank)`

  `first_embedding = Embedding(Scope([0]), rank)`, `last_embedding = Embedding(Scope([n-1]), rank)`,
  and for every inner mode `m = 1 … n-2`, `rank` embeddings `inner_embeddings[m-1][q]`
  (`q = 0 … rank-1`) over `Scope([m])` with `rank` units each.

  Loop `for i in range(n - 1)` with `cur_sl = first_embedding`:
  * `i < n-2` : `prod_sls[q] = HadamardLayer(rank, arity=2)` with inputs
    `[cur_sl, inner_embeddings[i][q]]` for `q = 0 … rank-1`, then
    `sum_sl = SumLayer(rank, rank, arity=rank, weight = block_diag(1_{1×rank}, …, 1_{1×rank}))` over
    `prod_sls`; `cur_sl = sum_sl`.  Row `o` of the `(rank, rank*rank)` weight is 1 exactly on the
    columns `o*rank … o*rank + rank-1`, i.e. on the units of input `o`.
  * `i = n-2` : `prod_sl = HadamardLayer(rank, arity=2)` with inputs `[cur_sl, last_embedding]`,
    `sum_sl = SumLayer(rank, 1, arity=1, weight = 1_{1×rank})`; output.
  When `n = 2` only the second branch runs. -/

/-- the block-diagonal ones matrix `block_diag(1_{1×rank}, …)`: entry `[o, c]` -/
def mavOnes (o : Ops R) (rank : Nat) (i c : Nat) : R := if c / rank = i then o.one else o.zero

/-- `cur_sl` after `m` matrix–vector steps (modes `0 … m` consumed).
    `G m q r a` = unit `r` of inner embedding number `q` of mode `m` at index `a`. -/
def ttChain (o : Ops R) (rank : Nat) (first : Nat → V → R) (G : Nat → Nat → Nat → V → R) :
    Nat → Node R V
  | 0 => .leaf 0 rank first
  | m + 1 =>
      .sum rank rank rank (mavOnes o rank)
        (fun q => .had 2 rank (fun h =>
          if h.val = 0 then ttChain o rank first G m else .leaf (m + 1) rank (G (m + 1) q.val)))

/-- The tensor-train circuit over `n = inner + 2` modes (variables `0 … inner + 1`).
    `first r a`, `last r a` = unit `r` of the first / last embedding at index `a`. -/
def ttNode (o : Ops R) (inner rank : Nat) (first : Nat → V → R) (G : Nat → Nat → Nat → V → R)
    (last : Nat → V → R) : Node R V :=
  .sum 1 rank 1 (fun _ _ => o.one)
    (fun _ => .had 2 rank (fun h =>
      if h.val = 0 then ttChain o rank first G inner else .leaf (inner + 1) rank last))

/-! ### hidden Markov model — `pgms.hmm(ordering, num_latent_states = K)`

  With `n = len(ordering)`: `input_sl = input_factories[ordering[n-1]](Scope([ordering[n-1]]), K)`
  and `sum_sl = SumLayer(K, 1 if n == 1 else K)` over it.  Then for `i = n-2, …, 0`:
  `input_sl = input_factories[ordering[i]](Scope([ordering[i]]), K)`,
  `prod_sl = HadamardLayer(K, 2)` with inputs `[last_dense, input_sl]`,
  `sum_sl = SumLayer(K, 1 if i == 0 else K)` over `prod_sl`.  Output = the last sum layer.

  So the layer of position `i` of the ordering is a dense sum layer (`T i`, weight of shape
  `(outUnits i, K)`, arity 1) over `[layer of position i+1] ⊙ [input layer of variable
  ordering[i]]` (just the input layer for the last position).  The input layer of variable id `v`
  is built by factory number `v` (per-variable kwargs are looked up by variable id):
  `E v r a` = unit `r` of that layer at value `a`. -/

/-- number of output units of the sum layer at position `pos` of the ordering -/
def hmmOut (K pos : Nat) : Nat := if pos = 0 then 1 else K

/-- The sub-circuit rooted at the sum layer of position `pos`, where `v = ordering[pos]` and
    `rest = ordering[pos+1:]`. -/
def hmmFrom (K : Nat) (E : Nat → Nat → V → R) (T : Nat → Nat → Nat → R) :
    Nat → Nat → List Nat → Node R V
  | pos, v, [] => .sum 1 K (hmmOut K pos) (T pos) (fun _ => .leaf v K (E v))
  | pos, v, w :: rest =>
      .sum 1 K (hmmOut K pos) (T pos)
        (fun _ => .had 2 K (fun h =>
          if h.val = 0 then hmmFrom K E T (pos + 1) w rest else .leaf v K (E v)))

/-- The HMM circuit of an ordering.  (The real template raises `ValueError` on the empty ordering;
    the model returns a layer with no units.) -/
def hmmNode (K : Nat) (E : Nat → Nat → V → R) (T : Nat → Nat → Nat → R) : List Nat → Node R V
  | [] => .const 0 (fun _ => T 0 0 0)
  | v :: rest => hmmFrom K E T 0 v rest

/-! ### fully factorised — `pgms.fully_factorized(num_variables = n)`

  `input_layers[i] = input_factories[i](Scope([i]), 1)`; for `n = 1` the output is that input layer,
  otherwise `HadamardLayer(1, arity=n)` over them in order.  (`n = 0` raises in the real template;
  the model then builds the empty Hadamard layer.) -/

/-- `F i a` = the single unit of the input layer of variable `i` at value `a`. -/
def ffNode (n : Nat) (F : Nat → V → R) : Node R V :=
  if n = 1 then .leaf 0 1 (fun _ => F 0)
  else .had n 1 (fun j => .leaf j.val 1 (fun _ => F j.val))

/-! ### the documented contractions, as executable recursions (specification side) -/

/-- tensor train: the left-to-right vector after `m` steps,
    `v_0 = first[·, x_0]`, `v_{m+1}[q] = Σ_r v_m[r] · G_{m+1}[q][r, x_{m+1}]`. -/
def ttVec (o : Ops R) (rank : Nat) (first : Nat → V → R) (G : Nat → Nat → Nat → V → R)
    (x : Nat → V) : Nat → Nat → R
  | 0, r => first r (x 0)
  | m + 1, q => o.sumN rank fun r => o.mul (ttVec o rank first G x m r) (G (m + 1) q r (x (m + 1)))

/-- tensor train: the value `Σ_r v_{n-2}[r] · last[r, x_{n-1}]`. -/
def ttVal (o : Ops R) (inner rank : Nat) (first : Nat → V → R) (G : Nat → Nat → Nat → V → R)
    (last : Nat → V → R) (x : Nat → V) : R :=
  o.sumN rank fun r => o.mul (ttVec o rank first G x inner r) (last r (x (inner + 1)))

/-- HMM: the backward message of position `pos` (`v = ordering[pos]`, `rest = ordering[pos+1:]`):
    `β_pos[o] = Σ_j T_pos[o, j] · β_{pos+1}[j] · E_v[j](x_v)` (no `β` factor at the last position). -/
def hmmBack (o : Ops R) (K : Nat) (E : Nat → Nat → V → R) (T : Nat → Nat → Nat → R) (x : Nat → V) :
    Nat → Nat → List Nat → Nat → R
  | pos, v, [], i => o.sumN K fun j => o.mul (T pos i j) (E v j (x v))
  | pos, v, w :: rest, i =>
      o.sumN K fun j => o.mul (T pos i j) (o.mul (hmmBack o K E T x (pos + 1) w rest j) (E v j (x v)))

end Cirkit.Tpl
