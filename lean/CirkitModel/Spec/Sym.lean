/-
  CirkitModel.Spec.Sym — two notions the statements about symbolic circuits and parameter graphs
  mention: the factorization `SCirc.factors` that `scopeFactorizations` records for a product layer
  (C08), and `PExpr.onlyRefs` (C10).  Definitions only.
-/
import CirkitModel.Model.Sym

namespace Cirkit

namespace SCirc
variable {R : Type}

/-- the factorization that `SCirc.scopeFactorizations` records for a product layer `l` -/
def factors (c : SCirc R) (l : SLayer R) : List Scope :=
  (Scope.sortScopes (l.ins.map fun i => c.scopes.getD i [])).filter (fun s => !s.isEmpty)

end SCirc

section
variable {R : Type}

/-- true iff every leaf of the graph is a reference (`.ref`) or a constant (`.const`) -/
def PExpr.onlyRefs : PExpr R → Bool
  | .tensor _ _ => false
  | .ref _ _ => true
  | .const _ _ => true
  | .app _ args => onlyRefsList args
where
  onlyRefsList : List (PExpr R) → Bool
  | [] => true
  | e :: es => onlyRefs e && onlyRefsList es

end

end Cirkit
