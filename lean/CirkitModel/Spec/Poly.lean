/-
  CirkitModel.Spec.Poly — polynomial-input circuits (C05): `Node.PolyCircuit`, and the concrete
  polynomial circuit `exampleNode` that C05 uses for non-vacuity.  Definitions only.
-/
import Mathlib.Algebra.MvPolynomial.Variables
import CirkitModel.Model.Node

namespace Cirkit

section
variable {S : Type} [CommSemiring S]

open MvPolynomial

/-- every input layer over v' denotes polynomials in the single variable v'; sum weights are
    constants -/
def Node.PolyCircuit : Node (MvPolynomial ℕ S) Unit → Prop
  | .leaf v' _ f => ∀ i a, (f i a).vars ⊆ {v'}
  | .const _ c => ∀ i, (c i).vars = ∅
  | .sum _ _ _ W ch => (∀ i c, (W i c).vars = ∅) ∧ ∀ h, (ch h).PolyCircuit
  | .had _ _ ch => ∀ h, (ch h).PolyCircuit
  | .kron _ _ ch => ∀ h, (ch h).PolyCircuit

end

section
open MvPolynomial

/-- `X₁² ⊙ 3·X₈`: a Hadamard layer over two input layers (variables 1 and 8), one unit each -/
noncomputable def exampleNode : Node (MvPolynomial ℕ ℚ) Unit :=
  .had 2 1 fun h =>
    if h.val = 0 then .leaf 1 1 (fun _ _ => X 1 ^ 2) else .leaf 8 1 (fun _ _ => 3 * X 8)

end

end Cirkit
