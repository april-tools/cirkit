/-
  CirkitModel.Spec.Node — the vocabulary of the statements about the `Node` model that is not
  part of the executable model: the operation record of a commutative semiring, linear
  functionals, concatenation, the parameter classes `Norm` / `NonNeg` / `StrictPos`, the sampler
  relation `Reach` with `DrawPos`, and the row-major flat index.  Definitions only; what the
  property theorems claim is read off `Model/` and `Spec/`.
-/
import Mathlib.Algebra.BigOperators.Fin
import Mathlib.Algebra.Order.Ring.Defs
import CirkitModel.Model.Node
import CirkitModel.Model.Sample

open Finset

namespace Cirkit

def Ops.ofCommSemiring (R : Type) [CommSemiring R] : Ops R :=
  { zero := 0, one := 1, add := (· + ·), mul := (· * ·) }

/-- `S` is a linear functional on functions `V → R` -/
structure LinFun {R V : Type} [CommSemiring R] (S : (V → R) → R) : Prop where
  add : ∀ f g : V → R, S (fun a => f a + g a) = S f + S g
  smul : ∀ (c : R) (f : V → R), S (fun a => c * f a) = c * S f

/-- Concatenation of circuits: the outputs in order — `concatenate`. -/
def Circ.concat {R V : Type} (cs : List (Circ R V)) : Circ R V := ⟨(cs.map (·.outputs)).flatten⟩

/-- The normalised class: every input unit integrates to one (under its variable's functional
    `S v`), every constant unit is one, and the rows of every sum-layer weight matrix (over the
    `ar * kin` columns that are read) sum to one. -/
def Node.Norm {R V : Type} [CommSemiring R] (S : ℕ → (V → R) → R) : Node R V → Prop
  | .leaf v k f => ∀ i < k, S v (f i) = 1
  | .const k c => ∀ i < k, c i = 1
  | .sum ar kin kout W ch =>
      (∀ i < kout, ∑ h : Fin ar, ∑ j ∈ Finset.range kin, W i (h.val * kin + j) = 1)
        ∧ ∀ h, (ch h).Norm S
  | .had _ _ ch => ∀ h, (ch h).Norm S
  | .kron _ _ ch => ∀ h, (ch h).Norm S

def Node.NonNeg {R V : Type} [CommSemiring R] [PartialOrder R] : Node R V → Prop
  | .leaf _ _ f => ∀ i a, 0 ≤ f i a
  | .const _ c => ∀ i, 0 ≤ c i
  | .sum _ _ _ W ch => (∀ i c, 0 ≤ W i c) ∧ ∀ h, (ch h).NonNeg
  | .had _ _ ch => ∀ h, (ch h).NonNeg
  | .kron _ _ ch => ∀ h, (ch h).NonNeg

/-- `0 < ar ∧ 0 < kin`: an empty sum would be `0`. -/
def Node.StrictPos {R V : Type} [CommSemiring R] [PartialOrder R] : Node R V → Prop
  | .leaf _ _ f => ∀ i a, 0 < f i a
  | .const _ c => ∀ i, 0 < c i
  | .sum ar kin _ W ch => (0 < ar ∧ 0 < kin) ∧ (∀ i c, 0 < W i c) ∧ ∀ h, (ch h).StrictPos
  | .had _ _ ch => ∀ h, (ch h).StrictPos
  | .kron _ _ ch => ∀ h, (ch h).StrictPos

/-- "The top-down sampler can return assignment `x` from unit `i`": the walk of `Node.follow`
    (`CirkitModel.Model.Sample`), where every column followed has positive weight and every value
    drawn positive mass. -/
inductive Node.Reach {R V : Type} [CommSemiring R] [PartialOrder R] :
    Node R V → ℕ → (ℕ → V) → Prop
  | leaf {v k : ℕ} {f : ℕ → V → R} {i : ℕ} {x : ℕ → V} :
      0 < f i (x v) → Reach (.leaf v k f) i x
  | const {k : ℕ} {c : ℕ → R} {i : ℕ} {x : ℕ → V} :
      0 < c i → Reach (.const k c) i x
  | sum {ar kin kout : ℕ} {W : ℕ → ℕ → R} {ch : Fin ar → Node R V} {i : ℕ} {x : ℕ → V}
      (h : Fin ar) (j : ℕ) (hj : j < kin) :
      0 < W i (h.val * kin + j) → Reach (ch h) j x → Reach (.sum ar kin kout W ch) i x
  | had {ar k : ℕ} {ch : Fin ar → Node R V} {i : ℕ} {x : ℕ → V} :
      (∀ h, Reach (ch h) i x) → Reach (.had ar k ch) i x
  | kron {ar k : ℕ} {ch : Fin ar → Node R V} {i : ℕ} {x : ℕ → V} :
      (∀ h, Reach (ch h) (digit k ar h.val i) x) → Reach (.kron ar k ch) i x

section
variable {R V : Type} [CommSemiring R] [PartialOrder R]

/-- Every draw has positive mass: every unit of every input layer drew a value of positive
    density, every output unit of every sum layer drew a column of positive weight (what
    `Categorical(probs = …).sample` returns), and constant units are positive (they are `1` in a
    normalised circuit). -/
def Node.DrawPos : Node R V → Draw V → Prop
  | .leaf _ k f, d => ∀ r < k, 0 < f r (d.val [] r)
  | .const k c, _ => ∀ i < k, 0 < c i
  | .sum ar _ kout W ch, d =>
      (∀ o < kout, 0 < W o (d.col [] o)) ∧ ∀ h : Fin ar, (ch h).DrawPos (d.child h.val)
  | .had _ _ ch, d => ∀ h : Fin _, (ch h).DrawPos (d.child h.val)
  | .kron _ _ ch, d => ∀ h : Fin _, (ch h).DrawPos (d.child h.val)

end

namespace Tpl

/-- row-major flat index of a multi-index (first index most significant) -/
def flatIdx (k n : ℕ) (f : Fin n → Fin k) : ℕ := ∑ j : Fin n, (f j).val * k ^ (n - 1 - j.val)

end Tpl

end Cirkit
