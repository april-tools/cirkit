/-
  CirkitModel.Spec.Graphs — the vocabulary of the statements about graphs and histories: the
  topological numbering `UGraph.Topo` and the layer-wise ordering `Layered` that folding is handed
  (C02); the invariant `PState.Inv`, the ordering invariant `PState.LogTopo` and the well-bracketed
  histories `PState.WB` of the compiler registry (C18).  Definitions only.
-/
import Mathlib.Data.Nat.Notation
import CirkitModel.Model.Fold
import CirkitModel.Model.Registry

namespace Cirkit

/-- The modules are numbered in an order in which every input comes before its consumer (what
    `topological_ordering` of the real graph gives): every input id is smaller than the id of
    the module that reads it. -/
def UGraph.Topo (g : UGraph) : Prop := ∀ m < g.n, ∀ i ∈ g.ins m, i < m

/-- What `build_folded_graph` is handed: a layer-wise topological ordering of the modules
    `0 … n-1`, fold keys that determine the arity, outputs that are modules. -/
structure Layered (g : UGraph) (frs : List (List ℕ)) : Prop where
  perm : frs.flatten.Perm (List.range g.n)
  earlier : ∀ k < frs.length, ∀ m ∈ frs.getD k [], ∀ i ∈ g.ins m, i ∈ (frs.take k).flatten
  arity : ∀ m < g.n, ∀ m' < g.n, g.key m = g.key m' → (g.ins m).length = (g.ins m').length
  outs : ∀ o ∈ g.outputs, o < g.n

namespace PState

/-- Invariant of the registry state machine.  `cc_disjoint` is the "no compiled id occurs in two
    contexts" half of global freshness, which `cc_lt` alone does not say. -/
structure Inv (s : PState) : Prop where
  /-- every bimap is functional in both directions: no symbolic id occurs twice … -/
  left_nodup : ∀ c, ((s.ctx c).bimap.map (·.1)).Nodup
  /-- … and no compiled id occurs twice -/
  right_nodup : ∀ c, ((s.ctx c).bimap.map (·.2)).Nodup
  /-- compiled ids are globally fresh: every compiled id in any context is `< nextCc` … -/
  cc_lt : ∀ c, ∀ p ∈ (s.ctx c).bimap, p.2 < s.nextCc
  /-- … and no compiled id occurs in two contexts -/
  cc_disjoint : ∀ c c', c ≠ c' → ∀ p ∈ (s.ctx c).bimap, ∀ p' ∈ (s.ctx c').bimap, p.2 ≠ p'.2
  /-- registered symbolic ids exist -/
  sc_lt : ∀ c, ∀ p ∈ (s.ctx c).bimap, p.1 < s.operands.length
  /-- operands refer to earlier circuits (the pipeline is a DAG) -/
  dag : ∀ sc < s.operands.length, ∀ o ∈ s.operandsOf sc, o < sc
  /-- the compile log lists exactly the registered pairs -/
  log_iff : ∀ c sc, (c, sc) ∈ s.compileLog ↔ (s.compiledOf c sc).isSome
  /-- … each once -/
  log_nodup : s.compileLog.Nodup

/-- In the compile log every circuit comes after all of its operands (same context). -/
def LogTopo (s : PState) : Prop :=
  ∀ l1 c sc l2, s.compileLog = l1 ++ (c, sc) :: l2 → ∀ o ∈ s.operandsOf sc, (c, o) ∈ l1

/-- Syntactically well-bracketed histories.  `busy` lists the contexts that may not be entered
    (they are entered further out); `with c:` blocks nest, and a block never enters a context that
    is already entered (re-entrance of an active context is not claimed). -/
inductive WB : List ℕ → List POp' → Prop
  | nil (busy : List ℕ) : WB busy []
  | op (busy : List ℕ) (op : POp') (rest : List POp') : (∀ c, op ≠ .enter c) → (∀ c, op ≠ .exit c) →
      WB busy rest → WB busy (op :: rest)
  | block (busy : List ℕ) (c : ℕ) (body rest : List POp') : c ∉ busy → WB (c :: busy) body →
      WB busy rest → WB busy (.enter c :: (body ++ .exit c :: rest))

end PState

end Cirkit
